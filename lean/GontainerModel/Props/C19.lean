/-
C19 — self-hosting fixpoint: the shipped wiring is what its YAML declares.
The byte comparison is a computation on one instance and is performed by the check; what is logic:
the shipped wiring read from the checked-in generated file (regenerated table) is the one read from the YAML
files (regenerated as well), it has the resolver, factory, compiler-step, runner-step and validation-rule order
the model is written against, and a fixpoint of regeneration is stable under further generations.
-/
import GontainerModel.Generated.Wiring
import GontainerModel.Model.Compile
namespace GM.C19
open GM

/-- `n` generations; one generation `regen`: rebuild the tool with generated file `f` and regenerate -/
def generations {α : Type} (regen : α → α) : Nat → α → α
  | 0, f => f
  | n+1, f => generations regen n (regen f)

/-- if one regeneration reproduces the checked-in file, every later generation does -/
theorem fixpoint_stable {α : Type} (regen : α → α) (f : α) (h : regen f = f) (n : Nat) :
    generations regen n f = f := by
  induction n with
  | zero => rfl
  | succ n ih => simp [generations, h, ih]

/-- the checked-in container wires the resolver chains, the token factories, the compiler steps, the
runner steps and the output rules in the order the model uses -/
theorem shipped_wiring :
    (Generated.wiring.lookup "argResolver").map (·.2.1) = some (Compile.argChain.map Compile.Resolver.wiringName) ∧
    (Generated.wiring.lookup "primitiveArgResolver").map (·.2.1) = some (Compile.paramChain.map Compile.Resolver.wiringName) ∧
    (Generated.wiring.lookup "tokenStrategyFactory").map (·.2.1) = some (Token.baseFactories.map Token.Factory.wiringName) ∧
    (Generated.wiring.lookup "compiler").map (·.2.1) =
      some ["@stepValidateInput", "@stepCompileMeta", "@stepCompileParams", "@stepCompileServices", "@stepCompileDecorators"] ∧
    (Generated.wiring.lookup "runner").map (·.2.1) =
      some ["@stepDefaultInput", "@stepReadConfig", "@stepCompile", "@stepValidateOutput", "@stepCodeGenerator"] ∧
    (Generated.wiring.lookup "stepValidateOutput").map (·.2.1) =
      some ["=Validate output", "@stepOutputServicesScopes", "@stepOutputCircularDeps", "@stepOutputParamsExist", "@stepOutputServicesExist"] := by
  decide +kernel

/-- **the shipped wiring is what its YAML declares**: service by service, the checked-in generated container
(read with go/ast) has the constructor, the dependency arguments in order and the tags that
internal/gontainer/gontainer.yaml + gontainer_*.yaml (decoded and merged by the real code) declare, todo
services being wired as the `service todo` error constructor; likewise the decorators.  Both tables are regenerated. -/
theorem yaml_declares_wiring :
    Generated.wiring = Generated.yamlWiring ∧ Generated.wiringDecorators = Generated.yamlDecorators :=
  ⟨rfl, rfl⟩

/-- the services of the shipped wiring that carry the tag `step-runner-verbose` are these nine steps and rules, and the
single shipped decorator, the verbose switch, is attached to that tag -/
theorem verbose_steps :
    (Generated.wiring.filter (fun w => w.2.2.2.contains "step-runner-verbose")).map (·.1) =
      ["stepCodeGenerator", "stepCompile", "stepDefaultInput", "stepOutputCircularDeps", "stepOutputParamsExist",
       "stepOutputServicesExist", "stepOutputServicesScopes", "stepReadConfig", "stepValidateOutput"] ∧
    Generated.wiringDecorators = [["step-runner-verbose", "runner.DecorateStepVerboseSwitchable", "@printer", "@printer"]] := by
  decide +kernel

end GM.C19
