/-
C11 — input grammar: accept exactly the documented language, report every violation. Each regenerated expression is a term of
`Model/Regexes.lean` (`Pins`) whose language is a hand-written recogniser of the documented form (`Re.Recognises`); the
validators are iff-statements over these. Tag, call and scope shapes: the custom YAML unmarshalers (`Model/Decode.lean`).
-/
import GontainerModel.Lemmas.C11Aux
import GontainerModel.Lemmas.Grammar
import GontainerModel.Lemmas.Composite
import GontainerModel.Lemmas.SortedMap
import GontainerModel.Model.Validate
import GontainerModel.Model.Decode
import GontainerModel.Generated.Wiring
import GontainerModel.Props.Pins
namespace GM.C11
open GM GM.Validate GM.Input

/-- the matcher the model's validators run decides the language of the regular expression
(for every expression and every string) -/
theorem matcher_exact (r : Re) (w : List Char) : Re.accepts r w = true ↔ Re.Lang r w := Re.accepts_iff r w

/-- transfer: a regenerated expression that is the term `R`, whose language is the recogniser `P` -/
theorem language_of {G R : Re} (pin : G = R) {P : List Char → Bool} (h : Re.Recognises R P) (w : List Char) :
    Re.accepts G w = P w :=
  pin ▸ h.accepts_eq w

/-- **Go identifiers** (the getter pattern; pkg, container type/constructor, call and field names, function aliases:
`name_positions`): the accepted language is exactly "ASCII letter followed by letters, digits, `_`" -/
theorem goToken_language (w : List Char) : Re.accepts Generated.re_input_regexServiceGetter w = Grammar.goToken w :=
  language_of Pins.pin_input_regexServiceGetter Grammar.recognises_goToken w

/-- **parameter / service / tag / alias names** (the service-name pattern; the others: `name_positions`): exactly
"a letter, then letters/digits with single `.`/`-`/`_` separators, ending in a letter or digit" -/
theorem yamlToken_language (w : List Char) : Re.accepts Generated.re_input_regexServiceName w = Grammar.yamlToken w :=
  language_of Pins.pin_input_regexServiceName Grammar.recognises_yamlToken w

/-- every name position uses one of the two languages above (regenerated patterns are the same terms) -/
theorem name_positions :
    Generated.re_input_regexParamName = Rx.yamlToken ∧ Generated.re_input_regexServiceTag = Rx.yamlToken ∧
    Generated.re_input_regexMetaImportAlias = Rx.yamlToken ∧ Generated.re_token_regexTokenRef = Rx.yamlToken ∧
    Generated.re_input_regexpMetaPkg = Rx.goToken ∧ Generated.re_input_regexpMetaContainerType = Rx.goToken ∧
    Generated.re_input_regexpMetaContainerConstructor = Rx.goToken ∧ Generated.re_input_regexMetaFn = Rx.goToken ∧
    Generated.re_input_regexServiceCallName = Rx.goToken ∧ Generated.re_input_regexServiceFieldName = Rx.goToken :=
  ⟨Pins.pin_input_regexParamName, Pins.pin_input_regexServiceTag, Pins.pin_input_regexMetaImportAlias,
   Pins.pin_token_regexTokenRef, Pins.pin_input_regexpMetaPkg, Pins.pin_input_regexpMetaContainerType,
   Pins.pin_input_regexpMetaContainerConstructor, Pins.pin_input_regexMetaFn, Pins.pin_input_regexServiceCallName,
   Pins.pin_input_regexServiceFieldName⟩

/-- **package references** (`meta.imports` values): an import path — a letter, then letters, digits, `.`, `_`, `-`
with single `/` separators, not ending in `/` — bare or in double quotes, or `"."` -/
theorem import_language (w : List Char) : Re.accepts Generated.re_input_regexMetaImport w = Grammar.import_ w :=
  language_of Pins.pin_input_regexMetaImport Grammar.recognises_import w

/-- **constructors, decorator functions, parameter functions**: `[package.]Ident` in the validator AND in the
compiler (the two packages compile their own copies of the expression) -/
theorem goFunc_language (w : List Char) :
    Re.accepts Generated.re_input_regexServiceConstructor w = Grammar.goFunc w ∧
    Re.accepts Generated.re_input_regexDecoratorMethod w = Grammar.goFunc w ∧
    Re.accepts Generated.re_input_regexMetaGoFn w = Grammar.goFunc w ∧
    Re.accepts Generated.re_compiler_regexServiceConstructor w = Grammar.goFunc w ∧
    Re.accepts Generated.re_compiler_regexDecoratorMethod w = Grammar.goFunc w ∧
    Re.accepts Generated.re_compiler_regexMetaGoFn w = Grammar.goFunc w :=
  ⟨language_of Pins.pin_input_regexServiceConstructor Grammar.recognises_goFunc w,
   language_of Pins.pin_input_regexDecoratorMethod Grammar.recognises_goFunc w,
   language_of Pins.pin_input_regexMetaGoFn Grammar.recognises_goFunc w,
   language_of Pins.pin_compiler_regexServiceConstructor Grammar.recognises_goFunc w,
   language_of Pins.pin_compiler_regexDecoratorMethod Grammar.recognises_goFunc w,
   language_of Pins.pin_compiler_regexMetaGoFn Grammar.recognises_goFunc w⟩

/-- **service types**: `[*][package.]Ident`, validator and compiler -/
theorem serviceType_language (w : List Char) :
    Re.accepts Generated.re_input_regexServiceType w = Grammar.serviceType w ∧
    Re.accepts Generated.re_compiler_regexServiceType w = Grammar.serviceType w :=
  ⟨language_of Pins.pin_input_regexServiceType Grammar.recognises_serviceType w,
   language_of Pins.pin_compiler_regexServiceType Grammar.recognises_serviceType w⟩

/-- **service values**: `[&][package.]Ident(.Ident)*` or `[&][package.]Ident{}`, validator and the `syntax` helper
that compiles them -/
theorem serviceValue_language (w : List Char) :
    Re.accepts Generated.re_input_regexServiceValue w = Grammar.serviceValue w ∧
    Re.accepts Generated.re_syntax_regexServiceValue w = Grammar.serviceValue w :=
  ⟨language_of Pins.pin_input_regexServiceValue Grammar.recognises_serviceValue w,
   language_of Pins.pin_syntax_regexServiceValue Grammar.recognises_serviceValue w⟩

/-- **decorator tags**: `*` or a tag name -/
theorem decoratorTag_language (w : List Char) : Re.accepts Generated.re_input_regexDecoratorsTag w = Grammar.decoratorTag w :=
  language_of Pins.pin_input_regexDecoratorsTag Grammar.recognises_decoratorTag w

/-- **argument forms of the resolvers**: `@service`, `!tagged <tag>`, `!value <service value>` (one or more
white-space characters after the keyword) -/
theorem argument_languages (w : List Char) :
    Re.accepts Generated.re_resolver_serviceRegex w = Grammar.argService w ∧
    Re.accepts Generated.re_resolver_taggedRegex w = Grammar.argTagged w ∧
    Re.accepts Generated.re_resolver_valueRegex w = Grammar.argValue w :=
  ⟨language_of Pins.pin_resolver_serviceRegex Grammar.recognises_argService w,
   language_of Pins.pin_resolver_taggedRegex Grammar.recognises_argTagged w,
   language_of Pins.pin_resolver_valueRegex Grammar.recognises_argValue w⟩

/-- **no masking between sections**: the configuration is accepted iff every section is -/
theorem validate_sections (v : String) (i : Input) :
    validate v i = [] ↔
      Semver.validateVersion v i.version = [] ∧ validateMeta i = [] ∧ validateParams i = [] ∧
      validateServices i = [] ∧ validateDecorators i = [] := by
  simp only [validate, List.append_eq_nil_iff, and_assoc]

/-- **parameters: exact and complete** — accepted iff every name is a YAML token and every value a primitive -/
theorem params_exact (i : Input) :
    validateParams i = [] ↔ ∀ nv ∈ AMap.sorted i.params, Grammar.yamlToken nv.1.toList = true ∧ nv.2.isPrimitive = true := by
  simp only [validateParams, Errs.pfx_eq_nil_iff, List.flatMap_eq_nil_iff, List.append_eq_nil_iff, unsupported_nil_iff, rx_yaml,
    ite_nil_eq_nil]

/-- … and every violation is reported: one line per bad name plus one per non-primitive value -/
theorem params_report_all (i : Input) :
    (validateParams i).length =
      ((AMap.sorted i.params).filter fun nv => !rx Rx.yamlToken nv.1).length +
      ((AMap.sorted i.params).filter fun nv => !nv.2.isPrimitive).length := by
  unfold validateParams
  simp only [Errs.pfx, List.length_map, unsupported_eq]
  rw [length_flatMap_append, length_flatMap_ite, length_flatMap_ite]

/-- **getter rules**: a getter is accepted iff it is not reserved (the container's own API incl. the
embedded field), has no `Must` prefix, no `InContext` suffix, and is a Go identifier -/
theorem getter_rules (s : Service) (g : String) (hg : s.getter = some g) :
    serviceGetter s = [] ↔
      reservedGetters.contains g = false ∧ mustPrefix.isPrefixOf g.toList = false ∧
      inContextSuffix.isSuffixOf g.toList = false ∧ Grammar.goToken g.toList = true :=
  serviceGetter_nil_iff s g hg

/-- **creation-method rules**: a constructor, a value or a type; not constructor and value together; arguments only with a
constructor -/
theorem creation_rules (s : Service) :
    constructorType s = [] ↔
      ¬ (s.constructor.isNone ∧ s.value.isNone ∧ s.type.isNone) ∧ ¬ (s.constructor.isSome ∧ s.value.isSome) ∧
      ¬ (s.args.isEmpty = false ∧ s.constructor.isNone) := by
  simp only [constructorType, List.append_eq_nil_iff, ite_cons_eq_nil, and_assoc, Bool.not_eq_true']

/-- **todo services are exempt**: only the name is checked (stated for a configuration of that one service) -/
theorem todo_exempt (n : String) (s : Service) (hs : s.todo = some true) :
    validateServices { services := [(n, s)] } = [] ↔ Grammar.yamlToken n.toList = true := by
  have hsorted : AMap.sorted [(n, s)] = [(n, s)] := by
    simp [AMap.sorted, AMap.keys, AMap.rawKeys, AMap.get, List.eraseDups_cons]
  have htodo : s.todo.getD false = true := by rw [hs]; rfl
  -- a todo service is not asked for its attributes and claims no getter
  have hlive : liveGetters [(n, s)] = [] := by rw [liveGetters, List.filterMap_cons, if_pos htodo]; rfl
  rw [services_exact]
  dsimp only
  rw [hsorted, hlive, List.forall_mem_singleton]
  exact ⟨fun h => h.1.1, fun h => ⟨⟨h, fun hlive => by rw [htodo] at hlive; cases hlive⟩, List.nodup_nil⟩⟩

/-- **accepted ⇒ no two live services claim one getter**, and every live service passed its attribute checks -/
theorem getters_unique (i : Input) (h : validateServices i = []) :
    (liveGetters (AMap.sorted i.services)).Nodup ∧
    ∀ ns ∈ AMap.sorted i.services, ns.2.todo.getD false = false → serviceAttrs ns.2 = [] :=
  have ⟨hown, hnd⟩ := (services_exact i).mp h
  ⟨hnd, fun ns hns => (hown ns hns).2⟩

/-! Tag and call shapes: `fun_cases` splits a node along the branches of the decoder (`case1`, `case2`, … as they stand in its
definition) and puts the branch's result in place of the call: the stored shapes are the branches that end in `.ok`, and an
`.error` is no `.ok`. -/

/-- **tag shapes**: a tag node is stored iff it is a string (priority 0) or a mapping whose `name` is a
string and whose `priority`, if present, is an int; what is stored is exactly that name and priority -/
theorem tag_shapes (n : Decode.Node) (t : Tag) :
    Decode.decodeTag n = .ok t ↔
      (n = .v (.str t.name) ∧ t.priority = 0) ∨
      (∃ kv, n = .dict kv ∧ kv.lookup "name" = some (.v (.str t.name)) ∧
        ((kv.lookup "priority" = none ∧ t.priority = 0) ∨ kv.lookup "priority" = some (.v (.int t.priority)))) := by
  constructor
  · fun_cases Decode.decodeTag n
    case case1 => rintro ⟨⟩; exact .inl ⟨rfl, rfl⟩  -- a string
    case case3 kv _ hn hp => rintro ⟨⟩; exact .inr ⟨kv, rfl, hn, .inl ⟨hp, rfl⟩⟩  -- a mapping without `priority`
    case case4 kv _ hn _ hp => rintro ⟨⟩; exact .inr ⟨kv, rfl, hn, .inr hp⟩  -- a mapping with an int `priority`
    all_goals exact fun h => nomatch h
  · obtain ⟨tn, tp⟩ := t
    rintro (⟨rfl, rfl⟩ | ⟨kv, rfl, hn, hp⟩)
    · rfl
    · rcases hp with ⟨hp, rfl⟩ | hp <;> simp [Decode.decodeTag, hn, hp]

/-- **call shapes**: a call node is stored iff it is a sequence `[method]`, `[method, args]` or
`[method, args, immutable]` with a string, a sequence and a bool; the stored call is exactly that -/
theorem call_shapes (n : Decode.Node) (c : Call) :
    Decode.decodeCall n = .ok c ↔
      n = .list [.v (.str c.method)] ∧ c.args = [] ∧ c.immutable = false ∨
      n = .list [.v (.str c.method), .list c.args] ∧ c.immutable = false ∨
      n = .list [.v (.str c.method), .list c.args, .v (.bool c.immutable)] := by
  constructor
  · fun_cases Decode.decodeCall n
    case case2 => rintro ⟨⟩; exact .inl ⟨rfl, rfl, rfl⟩  -- `[method]`
    case case3 => rintro ⟨⟩; exact .inr (.inl ⟨rfl, rfl⟩)  -- `[method, args]`
    case case4 m as b tail hlen =>
      -- a string, a sequence, a bool and then anything: the length check leaves the three
      rintro ⟨⟩
      obtain rfl : tail = [] := by simpa using hlen
      exact .inr (.inr rfl)
    all_goals exact fun h => nomatch h
  · obtain ⟨m, as, im⟩ := c
    rintro (⟨rfl, rfl, rfl⟩ | ⟨rfl, rfl⟩ | rfl) <;> rfl

/-- **scope shapes**: a scope node is stored iff it is a scalar whose text is a keyword, as the scope the keyword names -/
theorem scope_shapes (n : Decode.Node) (sc : Scope) :
    Decode.decodeScope n = .ok sc ↔ ∃ x, n = .v x ∧ (Decode.scalarText x, sc) ∈ Decode.scopeKeywords := by
  cases n with
  | v x =>
    have stored : Decode.decodeScope (.v x) = .ok sc ↔ Decode.scopeKeywords.lookup (Decode.scalarText x) = some sc := by
      unfold Decode.decodeScope
      dsimp only
      cases Decode.scopeKeywords.lookup (Decode.scalarText x) with
      | none => exact ⟨fun h => (by cases h), fun h => (by cases h)⟩
      | some sc' => exact ⟨fun h => by cases h; rfl, fun h => by cases h; rfl⟩
    -- the keywords are distinct, so the table binds exactly the pairs it lists
    have bound : Decode.scopeKeywords.lookup (Decode.scalarText x) = some sc ↔ (Decode.scalarText x, sc) ∈ Decode.scopeKeywords :=
      AMap.get_eq_some_iff (by simp [Decode.scopeKeywords]) _ _
    rw [stored, bound]
    exact ⟨fun h => ⟨x, rfl, h⟩, by rintro ⟨_, ⟨⟩, h⟩; exact h⟩
  | list xs => exact ⟨fun h => (by cases h), by rintro ⟨_, ⟨⟩, _⟩⟩
  | dict kv => exact ⟨fun h => (by cases h), by rintro ⟨_, ⟨⟩, _⟩⟩

/-- **scope keywords**: exactly `shared`, `contextual`, `non_shared` are stored, as the scope they name -/
theorem scope_keywords (s : String) (sc : Scope) :
    Decode.decodeScope (.v (.str s)) = .ok sc ↔
      (s = "shared" ∧ sc = .shared) ∨ (s = "contextual" ∧ sc = .contextual) ∨ (s = "non_shared" ∧ sc = .nonShared) := by
  simp [scope_shapes, Decode.scalarText, Decode.scopeKeywords]

/-- the keyword table is the one of input_scope.go (regenerated) -/
theorem pin_scope_keywords :
    Generated.scopeKeywordTable = [("ScopeShared", "shared"), ("ScopeContextual", "contextual"), ("ScopeNonShared", "non_shared")] ∧
    Decode.scopeKeywords.map (·.1) = Generated.scopeKeywordTable.map (·.2) := ⟨rfl, rfl⟩

/-- the fully written forms are read back as written -/
theorem shapes_roundtrip (t : Tag) (c : Call) :
    Decode.decodeTag (Decode.encodeTag t) = .ok t ∧ Decode.decodeCall (Decode.encodeCall c) = .ok c :=
  ⟨rfl, rfl⟩

-- the documented examples are accepted / the documented non-examples rejected
example : Grammar.yamlToken ['m','y','.','p','a','r','a','m','-','1','_','x'] = true := by decide +kernel
example : Grammar.yamlToken ['a','-','-','b'] = false := by decide +kernel
example : Grammar.yamlToken ['a','.'] = false := by decide +kernel
example : Grammar.yamlToken ['1','a'] = false := by decide +kernel
example : Grammar.goToken ['G','e','t','D','B','_','2'] = true := by decide +kernel
example : Grammar.goToken ['_','x'] = false := by decide +kernel
example : Grammar.goToken ['a','-','b'] = false := by decide +kernel

-- documented composite forms (docs/SERVICES.md, docs/META.md) are accepted, near misses rejected
example : Grammar.import_ ['m','y','/','p','k','g','-','1','.','x'] = true := by decide +kernel
example : Grammar.import_ ['"','m','y','/','p','k','g','"'] = true := by decide +kernel
example : Grammar.import_ ['"','.','"'] = true := by decide +kernel
example : Grammar.import_ ['m','y','/','/','p'] = false := by decide +kernel
example : Grammar.import_ ['m','y','/'] = false := by decide +kernel
example : Grammar.import_ ['"','m','y'] = false := by decide +kernel
example : Grammar.goFunc ['p','k','g','.','N','e','w'] = true := by decide +kernel
example : Grammar.goFunc ['"','a','/','b','"','.','N','e','w'] = true := by decide +kernel
example : Grammar.goFunc ['a','.','b','.','N'] = true := by decide +kernel
example : Grammar.goFunc ['p','k','g','.'] = false := by decide +kernel
example : Grammar.serviceType ['*','p','.','T'] = true := by decide +kernel
example : Grammar.serviceType ['*','*','T'] = false := by decide +kernel
example : Grammar.serviceValue ['&','p','.','T','{','}'] = true := by decide +kernel
example : Grammar.serviceValue ['p','.','V','.','F'] = true := by decide +kernel
example : Grammar.serviceValue ['p','.','T','{',' ','}'] = false := by decide +kernel
example : Grammar.serviceValue ['&','&','V'] = false := by decide +kernel
example : Grammar.argTagged ['!','t','a','g','g','e','d',' ','\t','a','.','b'] = true := by decide +kernel
example : Grammar.argTagged ['!','t','a','g','g','e','d','a'] = false := by decide +kernel
example : Grammar.argValue ['!','v','a','l','u','e',' ','&','p','.','T','{','}'] = true := by decide +kernel
example : Grammar.argService ['@','d','b','-','1'] = true := by decide +kernel
example : Grammar.decoratorTag ['*'] = true := by decide +kernel

end GM.C11
