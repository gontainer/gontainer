/-
C12 — total on arbitrary input: no panic, no hang (partial).
Lean functions are total by construction, so "the model does not panic" says nothing. What is
proved: the COMPLETE typed inventory of panic-capable constructs and of loops in /repo's own code
(regenerated with go/types on every run) is contained in the reviewed one below — a new unchecked
type assertion, index, slice, Must* call, explicit panic, unbounded `for` or recursion is an
undischarged obligation — and the guards that make the reviewed constructs safe hold in the model.
Panics inside yaml.v3, cobra, gofmt/goimports, gonum and the runtime library are outside any model;
absence there is only searched for (fuzzing), which is why this property is claimed as `other`.
-/
import GontainerModel.Generated.Sites
import GontainerModel.Generated.Wiring
import GontainerModel.Lemmas.Runner
namespace GM.C12
open GM

/-- the panic-capable constructs that are not guarded in a syntactically recognisable way, each with the reason it
cannot fire -/
def reviewed : List (String × String) := [
  ("imports.imports.Alias: index $1[len($1)-1]", "strings.Split never returns an empty slice"),
  ("regex.Match: index $1[$2]", "i ranges over SubexpNames, FindStringSubmatch has that length after MatchString succeeded"),
  ("resolver.NonStringPrimitiveResolver.ResolveArg: exporter.MustExport", "only after Supports: non-string primitive"),
  ("resolver.PatternResolver.ResolveArg: assert $1.(string)", "ArgResolver calls ResolveArg only after Supports, which checks for a string"),
  ("resolver.ServiceResolver.ResolveArg: assert $1.(string)", "as above"),
  ("resolver.TaggedResolver.ResolveArg: assert $1.(string)", "as above"),
  ("resolver.ValueResolver.ResolveArg: assert $1.(string)", "as above"),
  ("runner.DecorateStepVerboseSwitchable: assert $1.Service.(Step)", "theorem verbose_services_are_steps"),
  ("runner.Printer.EndIndent: slice $1.indents[:len($1.indents)-1]", "Indent/EndIndent are paired in StepVerboseSwitchable.Run (deferred)"),
  ("runner.Printer.PrintAlignedLn: strings.Repeat", "theorem repeat_count_nonneg"),
  ("runner.Printer.Println: panic", "only when the writer fails (stdout closed): environment, not input"),
  ("runner.StepReadConfig.findFiles: exporter.MustExport", "argument is a string"),
  ("token.FactoryFunction.Create: exporter.MustExport", "argument is a string"),
  ("token.FactoryString.Create: exporter.MustExport", "argument is a string")]

/-- the guards the inventory tool recognises in the typed syntax tree (each makes the construct safe by itself) -/
def recognisedGuards : List String :=
  ["constant index under a length check", "constant slice bound under a length check", "constant slice bounds under a length check",
   "full slice", "index by a loop counter into a slice made with that length",
   "index by a range key into a slice made with that length", "index by a sort callback argument",
   "index by the counter of a loop bounded by len of the same slice", "index by the key of a range over the same slice",
   "index from the end under a length check", "index found by a search in the same slice, known to be non-negative",
   "index by SubexpIndex of a declared group into the non-nil submatch of the same expression", "Must call in a function used only by package-level initialisers", "Must getter of the tool's own generated container", "slice from one past a strings index of the same string",
   "slice past a prefix under an equality or HasPrefix check", "type assertion in comma-ok form",
   "unsigned index under a bound check against the length of the same slice"]

/-- **every panic-capable construct of the tool is guarded in a recognised way or is one of the reviewed ones** — a new
unguarded index, slice, assertion, Must* call or explicit panic is an undischarged obligation, a reviewed construct that
disappears is none. Site keys name the function and the construct, local variables numbered in order of appearance; a second
construct with the same key in the same function has the key "… (x 2)" -/
theorem panic_sites_discharged :
    (∀ s ∈ Generated.panicSites, s ∈ reviewed.map (·.1)) ∧ ∀ g ∈ Generated.guardedSites, g.1 ∈ recognisedGuards := by
  -- `simp` decides an equation of two literals by their first differing character; `decide` has the kernel encode both
  simp [Generated.panicSites, reviewed, Generated.guardedSites, recognisedGuards]

/-- `toExpr` indexes and slices only strings of at least two runes -/
theorem toExpr_guard (e : List Char) (h : e.length < 2) : Chunk.toExpr e = none := by
  match e with
  | [] => rfl
  | [_] => rfl
  | _ :: _ :: _ => simp at h; omega

/-- `GoCode` reads `tkns[0]` only when there is a token -/
theorem goCode_guard : Token.goCode [] = .error "unexpected error: len(tokens) == 0" := rfl

/-- `pat` occurs as a contiguous part -/
def hasSub (pat : List Char) : List Char → Bool
  | [] => pat.isEmpty
  | c :: cs => pat.isPrefixOf (c :: cs) || hasSub pat cs

/-- the constructor (or value) of a wired service names a step of the runner package: `runner.NewStep…` or `runner.Step…` -/
def mentionsRunnerStep (c : String) : Bool :=
  hasSub "runner.NewStep".toList c.toList || hasSub "runner.Step".toList c.toList

/-- every service the verbose decorator is applied to is built by a constructor of a runner step
(so the unchecked assertion `payload.Service.(Step)` holds for the shipped wiring) -/
theorem verbose_services_are_steps :
    ∀ w ∈ Generated.wiring, w.2.2.2.contains "step-runner-verbose" = true → mentionsRunnerStep w.2.1 = true := by
  decide +kernel

/-- a name of at most 47 characters, with the END suffix, the widest mark and one level of indentation, fits the row -/
theorem end_line_fits (n : String) (h : n.length ≤ 47) : (n ++ " END" ++ "ignored" ++ "  ").length ≤ Runner.rowWidth := by
  have h1 : " END".length = 4 := by decide +kernel
  have h2 : "ignored".length = 7 := by decide +kernel
  have h3 : "  ".length = 2 := by decide +kernel
  simp only [String.length_append, h1, h2, h3, Runner.rowWidth]
  omega

/-- the dot filler never gets a negative count: every step / rule name fits the 60-column row in this way -/
theorem repeat_count_nonneg :
    ∀ n ∈ ["Default input", "Read config", "Compile", "Validate output", "Generate code", "Scope", "Circular dependencies",
            "Missing parameters", "Missing services"],
      (n ++ " END" ++ "ignored" ++ "  ").length ≤ Runner.rowWidth := by
  -- `decide` on the names alone: on the concatenations the kernel would decode every string to count its characters
  refine fun n hn => end_line_fits n ?_
  revert n
  decide +kernel

/-- every literal step name found in the code (regenerated) fits the row in the same way -/
theorem step_names_pinned :
    ∀ n ∈ Generated.stepNames, (n ++ " END" ++ "ignored" ++ "  ").length ≤ Runner.rowWidth := by
  refine fun n hn => end_line_fits n ?_
  revert n
  decide +kernel

/-- **every loop is a `range` or a counted loop** (no `for {}` / condition-only loop in the tool) -/
theorem loops_bounded : ∀ k ∈ Generated.loopKinds, k = "range" ∨ k = "for-counted" := by simp [Generated.loopKinds]

/-- **no recursion**: the static call graph of the module (calls through interfaces excluded: those traverse a list of
wired steps / strategies, not the input) has no cycle -/
theorem self_calls_reviewed : Generated.recursiveFuncs = [] := rfl

/-- the model's command always ends with exit status 0 or 1 (C10) -/
theorem run_total (w : Runner.World) (c : Output.Output → Errs) : (Runner.run w c).exit = 0 ∨ (Runner.run w c).exit = 1 :=
  (Runner.run_cases w c).imp (·.1) (·.1)

end GM.C12
