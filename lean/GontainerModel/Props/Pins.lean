/-
Pinning theorems for the regular expressions: each expression the model uses, REGENERATED from /repo, is the
term of `Model/Regexes.lean` the hand-written model runs, with its anchoring. A changed expression breaks
the `rfl` below that mentions it (and the pins of the same expression in `Props/C03.lean` and `Props/C14.lean`). `re_template_reEmptyNewLines`, which the model does not use, and the
name list `regexNames` are not pinned. (Resolver order, step order, flag wiring and the template/runtime
API are pinned in the property files that use them.)
-/
import GontainerModel.Generated.Regex
import GontainerModel.Model.Regexes
namespace GM.Pins
open GM

theorem pin_token_regexTokenRef : Generated.re_token_regexTokenRef = Rx.yamlToken := rfl
theorem pin_token_regexSimpleFn : Generated.re_token_regexSimpleFn = Rx.simpleFn := rfl
theorem pin_input_regexDecoratorsTag : Generated.re_input_regexDecoratorsTag = Rx.decoratorTag := rfl
theorem pin_input_regexDecoratorMethod : Generated.re_input_regexDecoratorMethod = Rx.goFunc := rfl
theorem pin_input_regexpMetaPkg : Generated.re_input_regexpMetaPkg = Rx.goToken := rfl
theorem pin_input_regexpMetaContainerType : Generated.re_input_regexpMetaContainerType = Rx.goToken := rfl
theorem pin_input_regexpMetaContainerConstructor : Generated.re_input_regexpMetaContainerConstructor = Rx.goToken := rfl
theorem pin_input_regexMetaImport : Generated.re_input_regexMetaImport = Rx.import_ := rfl
theorem pin_input_regexMetaImportAlias : Generated.re_input_regexMetaImportAlias = Rx.yamlToken := rfl
theorem pin_input_regexMetaFn : Generated.re_input_regexMetaFn = Rx.goToken := rfl
theorem pin_input_regexMetaGoFn : Generated.re_input_regexMetaGoFn = Rx.goFunc := rfl
theorem pin_input_regexParamName : Generated.re_input_regexParamName = Rx.yamlToken := rfl
theorem pin_input_regexServiceName : Generated.re_input_regexServiceName = Rx.yamlToken := rfl
theorem pin_input_regexServiceGetter : Generated.re_input_regexServiceGetter = Rx.goToken := rfl
theorem pin_input_regexServiceType : Generated.re_input_regexServiceType = Rx.serviceType := rfl
theorem pin_input_regexServiceValue : Generated.re_input_regexServiceValue = Rx.serviceValue := rfl
theorem pin_input_regexServiceConstructor : Generated.re_input_regexServiceConstructor = Rx.goFunc := rfl
theorem pin_input_regexServiceCallName : Generated.re_input_regexServiceCallName = Rx.goToken := rfl
theorem pin_input_regexServiceFieldName : Generated.re_input_regexServiceFieldName = Rx.goToken := rfl
theorem pin_input_regexServiceTag : Generated.re_input_regexServiceTag = Rx.yamlToken := rfl
theorem pin_compiler_regexDecoratorMethod : Generated.re_compiler_regexDecoratorMethod = Rx.goFunc := rfl
theorem pin_compiler_regexMetaGoFn : Generated.re_compiler_regexMetaGoFn = Rx.goFunc := rfl
theorem pin_compiler_regexServiceType : Generated.re_compiler_regexServiceType = Rx.serviceType := rfl
theorem pin_compiler_regexServiceConstructor : Generated.re_compiler_regexServiceConstructor = Rx.goFunc := rfl
theorem pin_resolver_servicePrefixRegex : Generated.re_resolver_servicePrefixRegex = Re.cls [(64, 64)] := rfl
theorem pin_resolver_serviceRegex : Generated.re_resolver_serviceRegex = Rx.argService := rfl
theorem pin_resolver_taggedPrefixRegex : Generated.re_resolver_taggedPrefixRegex = Rx.prefixTagged := rfl
theorem pin_resolver_taggedRegex : Generated.re_resolver_taggedRegex = Rx.argTagged := rfl
theorem pin_resolver_valuePrefixRegex : Generated.re_resolver_valuePrefixRegex = Rx.prefixValue := rfl
theorem pin_resolver_valueRegex : Generated.re_resolver_valueRegex = Rx.argValue := rfl
theorem pin_syntax_regexServiceValue : Generated.re_syntax_regexServiceValue = Rx.serviceValue := rfl
/-- the expression that turns a path element into an identifier part is an internal helper: pinned while it exists (what it
computes is tied by the `alias` correspondence of C14 either way) -/
theorem pin_imports_regexNoAlphaNum :
    Generated.opt_imports_regexNoAlphaNum = none ∨ Generated.opt_imports_regexNoAlphaNum = some (Rx.noAlphaNum, "search") := by
  first | exact Or.inr rfl | exact Or.inl rfl

/-- anchoring of the expressions above (full = `\A(…)\z`, prefix = `\A(…)`, search = unanchored) -/
theorem pin_kinds :
    [Generated.kind_token_regexTokenRef, Generated.kind_token_regexSimpleFn,
     Generated.kind_input_regexServiceName, Generated.kind_input_regexServiceGetter,
     Generated.kind_input_regexServiceType, Generated.kind_input_regexServiceValue,
     Generated.kind_input_regexServiceConstructor, Generated.kind_input_regexServiceCallName,
     Generated.kind_input_regexServiceFieldName, Generated.kind_input_regexServiceTag,
     Generated.kind_input_regexParamName, Generated.kind_input_regexDecoratorsTag,
     Generated.kind_input_regexDecoratorMethod, Generated.kind_input_regexpMetaPkg,
     Generated.kind_input_regexpMetaContainerType, Generated.kind_input_regexpMetaContainerConstructor,
     Generated.kind_input_regexMetaImport, Generated.kind_input_regexMetaImportAlias,
     Generated.kind_input_regexMetaFn, Generated.kind_input_regexMetaGoFn,
     Generated.kind_compiler_regexDecoratorMethod, Generated.kind_compiler_regexMetaGoFn,
     Generated.kind_compiler_regexServiceType, Generated.kind_compiler_regexServiceConstructor,
     Generated.kind_resolver_serviceRegex, Generated.kind_resolver_taggedRegex,
     Generated.kind_resolver_valueRegex, Generated.kind_syntax_regexServiceValue]
      = List.replicate 28 "full"
    ∧ [Generated.kind_resolver_servicePrefixRegex, Generated.kind_resolver_taggedPrefixRegex,
       Generated.kind_resolver_valuePrefixRegex] = List.replicate 3 "prefix" :=
  ⟨rfl, rfl⟩

end GM.Pins
