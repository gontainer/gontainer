/-
C08 — output and diagnostics are deterministic and key-order independent.
Go randomises the iteration order of every `range` over a map. Each such statement of /repo
(REGENERATED typed inventory `Generated.mapRangeClasses`, `mapRangeSites`) is modelled as a function of the map's
bindings IN ARBITRARY ORDER, and proved invariant under every permutation of them.
-/
import GontainerModel.Lemmas.SortedMap
import GontainerModel.Lemmas.Merge
import GontainerModel.Props.C14
import GontainerModel.Model.Runner
import GontainerModel.Generated.Sites
namespace GM.C08
open GM

/-- site `maps.Keys: range input` (and through it `maps.Iterate`, used for services, parameters,
fields, meta.imports, meta.functions, tags): the sorted key list does not depend on the order in
which the map yields its bindings -/
theorem perm_invariant_keys {V : Type} (l₁ l₂ : AMap V) (h : l₁.Perm l₂) (nd : (l₁.map Prod.fst).Nodup) :
    AMap.keys l₁ = AMap.keys l₂ :=
  AMap.keys_congr l₁ l₂ fun k => by rw [AMap.get_perm h nd]

theorem perm_invariant_iterate {V : Type} (l₁ l₂ : AMap V) (h : l₁.Perm l₂) (nd : (l₁.map Prod.fst).Nodup) :
    AMap.sorted l₁ = AMap.sorted l₂ := AMap.sorted_perm h nd

/-- site `input.mergeMap: range m`: the merged map (as a finite map) does not depend on the order
in which either operand is traversed -/
theorem perm_invariant_mergeMap {V : Type} (a₁ a₂ b₁ b₂ : AMap V) (ha : a₁.Perm a₂) (hb : b₁.Perm b₂)
    (nda : (a₁.map Prod.fst).Nodup) (ndb : (b₁.map Prod.fst).Nodup) (k : String) :
    (Input.mergeMap a₁ b₁).get k = (Input.mergeMap a₂ b₂).get k := by
  rw [Input.get_mergeMap, Input.get_mergeMap, AMap.get_perm ha nda, AMap.get_perm hb ndb]

/-- site `imports.Imports: range i.imports` followed by a sort on the (unique) path: the import
block lists the same entries in the same order whatever the iteration order -/
theorem perm_invariant_imports (st : Imports.St) (σ : List (String × String)) (h : σ.Perm st.imports)
    (nd : (st.imports.map Prod.fst).Nodup) :
    Imports.importsList { st with imports := σ } = Imports.importsList st := by
  unfold Imports.importsList
  congr 1
  exact AMap.sortBy_eq_of_perm Prod.fst h
    (fun a ha b hb e => eq_of_nodup_map Prod.fst nd (h.subset ha) (h.subset hb) e)

/-- site `imports.decorateImport: range i.prefixes`: first match over a map — unique by whole-segment
matching (C14) -/
theorem perm_invariant_decorateImport (tbl σ : List (String × String)) (hσ : σ.Perm tbl) (ok : C14.TableOk tbl) (r : String) :
    Imports.decorate σ r = Imports.decorate tbl r := C14.resolve_order_independent tbl σ hσ ok r

/-- site `runner.StepReadConfig.Run: range processed`: the keys are collected and sorted before the
"matches more than one pattern" errors are produced -/
theorem perm_invariant_processed (p₁ p₂ : List (String × List String)) (h : p₁.Perm p₂) (nd : (p₁.map Prod.fst).Nodup) :
    (AMap.sorted p₁).filterMap (fun (f, ps) => if ps.length > 1 then some (f, ps) else none) =
    (AMap.sorted p₂).filterMap (fun (f, ps) => if ps.length > 1 then some (f, ps) else none) :=
  congrArg _ (AMap.sorted_perm h nd)

/-- site `input.init: range mapScopeString`: inverting the three-entry scope table gives the same
keyword table for each of its six iteration orders -/
theorem perm_invariant_scope_table :
    ∀ σ ∈ [[(1, "shared"), (2, "contextual"), (3, "non_shared")], [(1, "shared"), (3, "non_shared"), (2, "contextual")],
            [(2, "contextual"), (1, "shared"), (3, "non_shared")], [(2, "contextual"), (3, "non_shared"), (1, "shared")],
            [(3, "non_shared"), (1, "shared"), (2, "contextual")], [(3, "non_shared"), (2, "contextual"), (1, "shared")]],
      ∀ kw ∈ ["shared", "contextual", "non_shared", "other"],
        (σ.map fun (p : Nat × String) => (p.2, p.1)).lookup kw =
        ([(1, "shared"), (2, "contextual"), (3, "non_shared")].map fun (p : Nat × String) => (p.2, p.1)).lookup kw := by
  decide +kernel

/-- the sites proved invariant by theorems of their own (`perm_invariant_decorateImport`, `perm_invariant_scope_table`) -/
def provedSites : List String :=
  ["imports.imports.decorateImport: range $1.prefixes", "input.init: range mapScopeString"]

/-- **every map `range` in the tool is order-independent**: its body is of a form for which the order cannot matter —
it only stores under the range key into another map (`perm_invariant_mergeMap`), or it only collects into a slice that
is sorted before it is used (`perm_invariant_keys`, `perm_invariant_imports`, `perm_invariant_processed`; the sorts are
plain ascending orders on distinct keys, `sort_sites_pinned`) — or it is one of `provedSites`. The classification is
regenerated from the typed syntax tree: a new raw range over a map is an undischarged obligation. -/
theorem sites_covered :
    (∀ s ∈ Generated.mapRangeSites, s ∈ provedSites) ∧
    (∀ c ∈ Generated.mapRangeClasses,
      c = "stores under the range key into another map" ∨ c = "collects into a slice that is sorted afterwards") := by
  simp [Generated.mapRangeSites, provedSites, Generated.mapRangeClasses]

/-- **every sort in the tool orders strings (or one string field) ascending in the plain byte-wise order** — the order
`AMap.strLe` the model sorts with — whichever library function performs it (under a coarser comparator ties would expose
Go's map order again) -/
theorem sort_sites_pinned :
    ∀ c ∈ Generated.sortSites, c = "ascending: the strings themselves" ∨ c = "ascending: string field .Path" := by
  simp [Generated.sortSites]

/-- **no ambient input**: the tool's own code reads no environment variable, clock, working directory
or random source; its only contacts with the outside are reading the input files, globbing/cleaning
paths, writing the output file and the exit status -/
theorem no_ambient_inputs :
    ∀ a ∈ Generated.ambientAPIs, a ∈ ["os.Exit", "os.ReadFile", "os.WriteFile", "path/filepath.Clean", "path/filepath.Glob"] := by
  simp [Generated.ambientAPIs]

/-- **reordering the keys of a YAML mapping does not change what is compiled**: the keys of `parameters` -/
theorem key_order_params (i : Input.Input) (σ : AMap Val) (h : σ.Perm i.params) (nd : (σ.map Prod.fst).Nodup)
    (fns : List Token.FnDef) (st : Imports.St) :
    Compile.compileParams { i with params := σ } fns st = Compile.compileParams i fns st := by
  unfold Compile.compileParams
  simp only [AMap.sorted_perm h nd]

/-- reordering the keys of `services` does not change what is compiled -/
theorem key_order_services (i : Input.Input) (σ : AMap Input.Service) (h : σ.Perm i.services) (nd : (σ.map Prod.fst).Nodup)
    (fns : List Token.FnDef) (st : Imports.St) :
    Compile.compileServices { i with services := σ } fns st = Compile.compileServices i fns st := by
  unfold Compile.compileServices
  simp only [AMap.sorted_perm h nd]

/-- reordering the keys of `meta.imports` and `meta.functions` does not change what is compiled -/
theorem key_order_meta (i : Input.Input) (σi σf : AMap String) (hi : σi.Perm i.mt.imports) (hf : σf.Perm i.mt.functions)
    (ndi : (σi.map Prod.fst).Nodup) (ndf : (σf.map Prod.fst).Nodup) (st : Imports.St) :
    Compile.compileMeta { i with mt := { i.mt with imports := σi, functions := σf } } st = Compile.compileMeta i st := by
  unfold Compile.compileMeta
  simp only [AMap.sorted_perm hi ndi, AMap.sorted_perm hf ndf]

/-- reordering the keys of `parameters` and `services` does not change what the validators report -/
theorem key_order_validate (i : Input.Input) (σp : AMap Val) (σs : AMap Input.Service)
    (hp : σp.Perm i.params) (hs : σs.Perm i.services) (ndp : (σp.map Prod.fst).Nodup) (nds : (σs.map Prod.fst).Nodup) (v : String) :
    Validate.validate v { i with params := σp, services := σs } = Validate.validate v i := by
  unfold Validate.validate Validate.validateParams Validate.validateServices Validate.validateMeta Validate.validateDecorators
  simp only [AMap.sorted_perm hp ndp, AMap.sorted_perm hs nds]

end GM.C08
