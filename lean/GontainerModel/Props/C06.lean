/-
C06 — dangling parameter/service references are detected, exactly. The two existence validators are read against the
reference positions of the compiled configuration (`paramRefs`, `serviceRefs`); in a program that runs the compiler's output the
names the runtime looks up for `@service` arguments and for references of parameters are among them.
-/
import GontainerModel.Lemmas.C06Aux
import GontainerModel.Generated.Wiring
import GontainerModel.Lemmas.Recorded
namespace GM.C06
open GM GM.Output

/-- every (referrer, parameter name) position of the compiled configuration: parameter patterns,
all service arguments (constructor, calls, fields), decorator arguments -/
def paramRefs (o : Output) : List (String × String) :=
  (o.params.flatMap fun p => p.dependsOn.map fun n => ("%" ++ p.name ++ "%", n)) ++
  (o.services.flatMap fun s => (s.allArgs.flatMap (·.depParams)).map fun n => ("@" ++ s.name, n)) ++
  (o.decorators.zipIdx.flatMap fun (d, i) => (d.args.flatMap (·.depParams)).map fun n =>
    ("decorator(#" ++ toString i ++ ", " ++ q d.tag ++ ")", n))

/-- the same for `@service` references (a parameter has none) -/
def serviceRefs (o : Output) : List (String × String) :=
  (o.services.flatMap fun s => (s.allArgs.flatMap (·.depServices)).map fun n => (s.name, n)) ++
  (o.decorators.zipIdx.flatMap fun (d, i) => (d.args.flatMap (·.depServices)).map fun n =>
    ("decorator(#" ++ toString i ++ ", " ++ q d.tag ++ ")", n))

def declaredParams (o : Output) : List String := o.params.map (·.name)
def declaredServices (o : Output) : List String := o.services.map (·.name)

/-- **Exactness (parameters).** The validator accepts iff every referenced parameter — from a
parameter, a service (arguments, fields, calls) or a decorator — is declared. -/
theorem params_exist_exact (o : Output) :
    validateParamsExist o = [] ↔ ∀ rn ∈ paramRefs o, rn.2 ∈ declaredParams o := by
  rw [params_exist_iff]
  simp only [paramRefs, declaredParams, List.forall_mem_append, List.forall_mem_flatMap, List.forall_mem_map, and_assoc]

/-- **Exactness (services).** The validator accepts iff every service referenced from a service or a decorator is declared. -/
theorem services_exist_exact (o : Output) :
    validateServicesExist o = [] ↔ ∀ rn ∈ serviceRefs o, rn.2 ∈ declaredServices o := by
  rw [services_exist_iff]
  simp only [serviceRefs, declaredServices, List.forall_mem_append, List.forall_mem_flatMap, List.forall_mem_map]

/-- the number of diagnostics equals the number of dangling reference occurrences (repetitions counted) -/
theorem params_report_count (o : Output) :
    (validateParamsExist o).length = ((paramRefs o).filter fun rn => !(declaredParams o).contains rn.2).length := by
  unfold validateParamsExist paramRefs declaredParams missing
  simp only [Errs.pfx, List.length_map, List.length_append, List.filter_append, List.length_flatMap,
    List.filter_flatMap, List.filter_map, Function.comp_def]

/-- a todo service is compiled to an entry under its name (so it counts as declared) without arguments (so it refers to
nothing) -/
theorem todo_service_declared (name : String) (svc : Input.Service) (dm : Option Bool)
    (fns : List Token.FnDef) (st : Imports.St) (h : svc.todo = some true) :
    (Compile.compileService name svc dm fns st).1.name = name ∧
    (Compile.compileService name svc dm fns st).1.todo = true ∧
    (Compile.compileService name svc dm fns st).1.allArgs = [] := by
  rw [Compile.compileService_todo name svc dm fns st (by rw [h]; rfl)]
  exact ⟨rfl, rfl, rfl⟩

/-- the two existence validators are the third and fourth rule of "Validate output" (regenerated wiring) -/
theorem wiring_pinned :
    (Generated.wiring.lookup "stepValidateOutput").map (·.2.1) =
      some ["=Validate output", "@stepOutputServicesScopes", "@stepOutputCircularDeps", "@stepOutputParamsExist", "@stepOutputServicesExist"] ∧
    Generated.argsAre ((Generated.wiring.lookup "stepOutputParamsExist").map (·.2.1)) ["!value output.ValidateParamsExist", "=Missing parameters"] = true ∧
    Generated.argsAre ((Generated.wiring.lookup "stepOutputServicesExist").map (·.2.1)) ["!value output.ValidateServicesExist", "=Missing services"] = true := by
  decide +kernel

/-- when the validator accepts, every recorded service reference of a service or of a decorator names a declared service: the
look-up by name (the body of `Runtime.svcByName`) finds a definition -/
theorem accepted_service_refs_resolve (o : Output) (h : validateServicesExist o = []) :
    (∀ s ∈ o.services, ∀ a ∈ s.allArgs, ∀ n ∈ a.depServices, (o.services.find? (·.name == n)).isSome = true) ∧
    (∀ d ∈ o.decorators, ∀ a ∈ d.args, ∀ n ∈ a.depServices, (o.services.find? (·.name == n)).isSome = true) := by
  obtain ⟨h1, h2⟩ := (services_exist_iff o).mp h
  constructor
  · intro s hs a ha n hn
    exact find?_name_isSome (h1 s hs n (List.mem_flatMap.mpr ⟨a, ha, hn⟩))
  · intro d hd a ha n hn
    obtain ⟨i, hi⟩ := exists_mem_zipIdx hd
    exact find?_name_isSome (h2 (d, i) hi n (List.mem_flatMap.mpr ⟨a, ha, hn⟩))

/-- … and every recorded `%reference%` of a parameter, a service or a decorator names a declared parameter -/
theorem accepted_param_refs_resolve (o : Output) (h : validateParamsExist o = []) :
    (∀ p ∈ o.params, ∀ n ∈ p.dependsOn, (o.params.find? (·.name == n)).isSome = true) ∧
    (∀ s ∈ o.services, ∀ a ∈ s.allArgs, ∀ n ∈ a.depParams, (o.params.find? (·.name == n)).isSome = true) ∧
    (∀ d ∈ o.decorators, ∀ a ∈ d.args, ∀ n ∈ a.depParams, (o.params.find? (·.name == n)).isSome = true) := by
  obtain ⟨h1, h2, h3⟩ := (params_exist_iff o).mp h
  refine ⟨?_, ?_, ?_⟩
  · intro p hp n hn
    exact find?_name_isSome (h1 p hp n hn)
  · intro s hs a ha n hn
    exact find?_name_isSome (h2 s hs n (List.mem_flatMap.mpr ⟨a, ha, hn⟩))
  · intro d hd a ha n hn
    obtain ⟨i, hi⟩ := exists_mem_zipIdx hd
    exact find?_name_isSome (h3 (d, i) hi n (List.mem_flatMap.mpr ⟨a, ha, hn⟩))

/-- **at run time, for every program that runs the compiler's output**: the name the runtime looks up for a `@service` argument
(`svcByName`, the look-up whose failure is the error `service does not exist`) is declared -/
theorem compiled_service_refs_declared (p : Runtime.Prog) (bv : String) (i : Input.Input) (hc : Runtime.CompiledFrom p bv i)
    (h : validateServicesExist p.out = []) :
    (∀ s ∈ p.out.services, ∀ a ∈ s.allArgs, Runtime.argKind a = some .service →
        (Runtime.svcByName p (a.depServices.headD "")).isSome = true) ∧
    (∀ d ∈ p.out.decorators, ∀ a ∈ d.args, Runtime.argKind a = some .service →
        (Runtime.svcByName p (a.depServices.headD "")).isSome = true) := by
  have hw := (Runtime.compiled_recorded p bv i hc).1
  have hr := accepted_service_refs_resolve p.out h
  constructor
  · intro s hs a ha hk
    exact hr.1 s hs a ha _ (headD_mem ((hw.1 s hs a ha).1 hk))
  · intro d hd a ha hk
    exact hr.2 d hd a ha _ (headD_mem ((hw.2 d hd a ha).1 hk))

/-- … and every `%reference%` the runtime's tokeniser finds in a compiled parameter names a declared parameter: the look-up
whose failure is `param does not exist` succeeds -/
theorem compiled_param_refs_declared (p : Runtime.Prog) (bv : String) (i : Input.Input) (hc : Runtime.CompiledFrom p bv i)
    (h : validateParamsExist p.out = []) :
    ∀ prm ∈ p.out.params, ∀ n ∈ Runtime.refsOf p prm.raw, (p.out.params.find? (·.name == n)).isSome = true := by
  intro prm hprm n hn
  exact (accepted_param_refs_resolve p.out h).1 prm hprm n ((Runtime.compiled_recorded p bv i hc).2 prm hprm n hn)

-- non-vacuity: a decorator argument referencing an undeclared parameter IS a reference position
def witness : Output :=
  { decorators := [{ tag := "t", decorator := "f", raw := "f", args := [{ code := "", raw := .str "%x%", depParams := ["x"] }] }] }
example : validateParamsExist witness
    = ["output.ValidateParamsExist: decorator(#0, \"t\"): param \"x\" does not exist"] := by decide +kernel

/-- **every `%ref%` of a pattern is recorded as a dependency**, in order and with repetitions: the recorded parameter
dependencies of a compiled pattern are exactly the references among its tokens -/
theorem pattern_deps_all_refs (fns : List Token.FnDef) (st st' : Imports.St) (s : String) (a : Output.Arg)
    (h : Compile.resolveWith .pattern fns st (.str s) = (st', .ok a)) :
    ∃ ts, (Token.tokenize fns st s).2 = .ok ts ∧ a.depParams = ts.filterMap Token.refOf := by
  obtain ⟨_, ts, hs, ht, hd⟩ := Compile.resolveWith_pattern (congrArg Prod.snd h)
  cases hs
  exact ⟨ts, ht, hd.trans (Token.flatMap_deps ts (Token.tokenize_deps ht))⟩

end GM.C06
