/-
C01 — accepted configurations yield Go that compiles (structural part).
What is logic is proved here over the REGENERATED tables: the templates only emit runtime API
that exists in the pinned runtime, every scope has a setter, the getter template has no
`return nil, …`, the reserved getter names are the runtime container's methods and the embedded field.
The verdict of the Go type checker itself is observed per sample by the check (translation
validation), not proved.
-/
import GontainerModel.Generated.Template
import GontainerModel.Model.Validate
namespace GM.C01
open GM

/-- every method the constructor template calls on a `container.Service` exists in the pinned runtime -/
theorem emitted_service_api_exists : ∀ m ∈ Generated.tplServiceMethods, m ∈ Generated.rtServiceMethods := by decide +kernel

/-- every container method the templates call exists -/
theorem emitted_container_api_exists : ∀ m ∈ Generated.tplContainerMethods, m ∈ Generated.rtContainerMethods := by decide +kernel

/-- every package-level symbol of the helper packages the templates reference exists -/
theorem emitted_pkg_symbols_exist :
    (∀ s ∈ Generated.tplContainerPkgSymbols, s ∈ Generated.rtPkg_container) ∧
    (∀ s ∈ Generated.tplGroupErrorSymbols, s ∈ Generated.rtPkg_grouperror) ∧
    (∀ s ∈ Generated.tplExporterSymbols, s ∈ Generated.rtPkg_exporter) ∧
    (∀ s ∈ Generated.tplCallerSymbols, s ∈ Generated.rtPkg_caller) ∧
    (∀ s ∈ Generated.tplCopierSymbols, s ∈ Generated.rtPkg_copier) := by decide +kernel

/-- each of the four `output.Scope` predicates has a template branch, and its setter exists -/
theorem scope_setter_total :
    Generated.tplScopeSetters.map (·.1) = ["IsDefault", "IsShared", "IsContextual", "IsNonShared"] ∧
    ∀ p ∈ Generated.tplScopeSetters, p.2 ∈ Generated.rtServiceMethods := ⟨rfl, by decide +kernel⟩

/-- the getter template has no `return nil, …` (the untyped `nil` is not assignable to a non-pointer `type`) -/
theorem getter_error_path_typed : Generated.tplGetterNilReturns = 0 := rfl

/-- the interface asserted by the generated `init()` is implemented by the embedded runtime container -/
theorem init_interface_implemented : ∀ m ∈ Generated.tplInitInterface, m ∈ Generated.rtContainerMethods := by decide +kernel

/-- the reserved getter names of the validator model are the runtime container's method set plus the
embedded field of the generated struct -/
theorem reserved_getters_cover :
    Validate.reservedGetters = Generated.rtContainerMethods ++ Generated.tplStructEmbedded := rfl

/-- the head and body templates declare no package-level variable (nothing to initialise but `init()`) -/
theorem no_package_vars : Generated.tplPackageVars = 0 := rfl

end GM.C01
