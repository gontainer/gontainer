/-
C15 — todo placeholders and run-time overrides (runtime library modelled: Model/Runtime.lean).
-/
import GontainerModel.Model.Runtime
import GontainerModel.Lemmas.ParamOnce
import GontainerModel.Lemmas.ParamFuel
import GontainerModel.Generated.Wiring
namespace GM.C15
open GM GM.Runtime

/-- `todo` (and `env`, `envInt`) are the built-in parameter functions the runner starts from -/
theorem builtins_declared :
    Input.defaults.mt.functions = [("env", "getEnv"), ("envInt", "getEnvInt"), ("todo", "paramTodo")] := rfl

/-- the todo function ALWAYS fails: with the given message, or `parameter todo` without arguments -/
theorem todo_param_errors (p : Prog) (args : List Val) :
    ∃ e, builtinFn p "paramTodo" args = .error e ∧
      (args = [] → e = "parameter todo") ∧ (∀ m rest, args = .str m :: rest → e = m) := by
  by_cases h : ∃ m rest, args = .str m :: rest
  · obtain ⟨m, rest, rfl⟩ := h
    exact ⟨m, by simp only [builtinFn], nofun, fun _ _ h => by cases h; rfl⟩
  · -- the side condition of the definition's second `paramTodo` equation
    have h' : ∀ m rest, args = Val.str m :: rest → False := fun m rest e => h ⟨m, rest, e⟩
    exact ⟨"parameter todo", by simp only [builtinFn], fun _ => rfl, fun m rest e => (h' m rest e).elim⟩

/-- a `todo: true` service that is neither overridden nor cached fails with `service todo` -/
theorem todo_service_errors (f : Nat) (p : Prog) (st : St) (bag : Bag) (id : String) (s : Output.Service)
    (hs : svcByName p id = some s) (htodo : s.todo = true) (hov : st.ovServices.lookup id = none)
    (hsh : st.shared.lookup id = none) (hbag : bag.lookup id = none) :
    ∃ e, (get (f + 1) p st bag id).2.2 = .error e ∧ e = "get(" ++ Val.quoteStr id ++ "): constructor: service todo" := by
  unfold Runtime.get
  simp only [hov, hs]
  cases effScope p st id <;> simp [hsh, hbag, getBody, htodo]

/-- **overrides win**: after `OverrideParam` the parameter IS the overriding value, whatever it was -/
theorem override_param_visible (f : Nat) (p : Prog) (st : St) (id : String) (v : RV)
    (h : st.ovParams.lookup id = some v) : getParam (f + 1) p st id = (st, .ok v) := by
  unfold getParam; simp [h]

/-- … and after `OverrideService` every later `get` (hence every dependant constructed later)
receives the overriding object -/
theorem override_service_visible (f : Nat) (p : Prog) (st : St) (bag : Bag) (id : String) (v : RV)
    (h : st.ovServices.lookup id = some v) : get (f + 1) p st bag id = (st, bag, .ok v) := by
  unfold Runtime.get; simp [h]

/-- **parameters are lazy**: a fresh container has evaluated nothing -/
theorem params_lazy : ({} : St).evalLog = [] ∧ ({} : St).pcache = [] := ⟨rfl, rfl⟩

/-- a cached parameter is returned without evaluating its provider again: the state, and in it the log, is as before -/
theorem param_cached (f : Nat) (p : Prog) (st : St) (id : String) (v : RV) (prm : Output.Param)
    (hov : st.ovParams.lookup id = none) (hp : p.out.params.find? (·.name == id) = some prm)
    (hc : st.pcache.lookup id = some v) : getParam (f + 1) p st id = (st, .ok v) := by
  unfold getParam; simp [hov, hp, hc]

theorem param_first_use (f : Nat) (p : Prog) (st : St) (id : String) (prm : Output.Param)
    (hov : st.ovParams.lookup id = none) (hp : p.out.params.find? (·.name == id) = some prm)
    (hc : st.pcache.lookup id = none) :
    (getParam (f + 1) p st id) =
      (match evalRaw f p { st with evalLog := st.evalLog ++ ["param:" ++ id] } prm.raw with
       | (st', .ok v) => ({ st' with pcache := (id, v) :: st'.pcache }, .ok v)
       | (st', .error e) => (st', .error ("getParam(" ++ Val.quoteStr id ++ "): " ++ e))) := by
  unfold getParam; simp only [hov, hp, hc]
  rcases evalRaw f p { st with evalLog := st.evalLog ++ ["param:" ++ id] } prm.raw with ⟨st', r⟩
  cases r <;> rfl

/-- **a parameter is evaluated at most once, and lazily**: across ANY history of `GetParam` calls
(any ids, any length) from any state, a parameter that has been evaluated keeps its cached value, its provider
never runs again, and every provider that does run belongs to a parameter that had not been evaluated before. The rank
hypothesis `hr` (also in `getParam_frame`, `cached_param_answers`) is not used by the proofs (`Lemmas/Rank.lean`) -/
theorem param_evaluated_at_most_once (p : Prog) (rk : String → Nat) (hr : Ranked p rk) (F : Nat) (ops : List String)
    (st : St) (id : String) (v : RV) (hc : st.pcache.lookup id = some v) :
    (runParams F p st ops).pcache.lookup id = some v ∧
    ∃ suf, (runParams F p st ops).evalLog = st.evalLog ++ suf ∧ ("param:" ++ id) ∉ suf ∧
      ∀ e ∈ suf, ∃ n, e = "param:" ++ n ∧ st.pcache.lookup n = none := by
  have h := runParams_inv p F ops st
  obtain ⟨suf, hlog, hsuf⟩ := h.lg
  refine ⟨h.pc.keeps hc, suf, hlog, fun hmem => ?_, hsuf⟩
  obtain ⟨n, hn, hnone⟩ := hsuf _ hmem
  rw [← (String.append_right_inj "param:").mp hn, hc] at hnone
  cases hnone

/-- **parameter evaluation never touches services or overrides**: a history of `GetParam` calls leaves the overriding
definitions, the shared-service cache, the context bags and the object heap exactly as they were -/
theorem getParam_frame (p : Prog) (rk : String → Nat) (hr : Ranked p rk) (F : Nat) (ops : List String) (st : St) :
    (runParams F p st ops).ovParams = st.ovParams ∧ (runParams F p st ops).ovServices = st.ovServices ∧
    (runParams F p st ops).shared = st.shared ∧ (runParams F p st ops).ctxBags = st.ctxBags ∧
    (runParams F p st ops).heap = st.heap := by
  have h := runParams_inv p F ops st
  exact ⟨h.ovParams, h.ovServices, h.shared, h.ctxBags, h.heap⟩

/-- … and a value that IS in the cache answers every later `GetParam` of the history's end state -/
theorem cached_param_answers (p : Prog) (rk : String → Nat) (hr : Ranked p rk) (F : Nat) (ops : List String)
    (st : St) (id : String) (v : RV) (prm : Output.Param) (hov : st.ovParams.lookup id = none)
    (hp : p.out.params.find? (·.name == id) = some prm) (hc : st.pcache.lookup id = some v) :
    getParam (F + 1) p (runParams F p st ops) id = (runParams F p st ops, .ok v) := by
  have h := (param_evaluated_at_most_once p rk hr F ops st id v hc).1
  have hf := (getParam_frame p rk hr F ops st).1
  exact param_cached F p _ id v prm (by rw [hf]; exact hov) hp h

/-- in the shipped wiring (regenerated) `writer` is constructed by the `service todo` closure, `printer` takes it and
`inputValidator` takes the parameter `version`: two of the placeholders cmd/runner_builder overrides -/
theorem self_todo_wiring :
    (Generated.wiring.lookup "writer").map (·.1) =
      some "func:func() (interface{}, error) { return nil, errors.New(\"service todo\") }" ∧
    (Generated.wiring.lookup "inputValidator").map (·.2.1) = some ["%version%"] ∧
    (Generated.wiring.lookup "printer").map (·.2.1) = some ["@writer"] := by decide +kernel

-- non-vacuity: a ranked two-level configuration; the history a, a, b runs each provider exactly once (a provider is logged
-- when it starts, so the dependant `a` stands before `b`)
def demoParams : Prog :=
  { out := { params := [{ name := "a", raw := .str "%b%x", code := "", dependsOn := ["b"] },
                        { name := "b", raw := .int 1, code := "", dependsOn := [] }] },
    imports := [], fns := [], env := [] }
example : Ranked demoParams (fun n => if n = "a" then 1 else 0) := by
  unfold Ranked
  decide +kernel
example : (runParams 10 demoParams {} ["a", "a", "b"]).evalLog = ["param:a", "param:b"] := by decide +kernel

end GM.C15
