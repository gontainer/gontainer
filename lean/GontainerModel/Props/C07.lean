/-
C07 — dependency cycles are detected, exactly.
The enumeration of all elementary cycles is gonum's (external); the model does not reproduce it.
It enters as the reported list `cs` with the contract `CyclesSpec` (each reported line is a closed walk of
the model's graph; the list is not empty when the graph is cyclic). The correspondence run checks the
contract on every case, and also that the nodes on reported lines cover every node that lies on a cycle.
-/
import GontainerModel.Lemmas.Recorded
namespace GM.C07
open GM GM.Graph GM.Output

theorem reach_exact (o : Output) (a : Node) (r : List Node) (h : reach (buildGraph o) a = some r) (b : Node) :
    b ∈ r ↔ Path (buildGraph o) a b := reach_sound_complete _ a r h b

/-- reachability always answers: |V| rounds of frontier expansion close (no fuel artefact) -/
theorem reach_always_answers (o : Output) (a : Node) : (reach (buildGraph o) a).isSome = true := reach_total _ a

/-- the validator's verdict, as modelled: cyclic iff some node of the dependency graph reaches itself -/
theorem cyclic_exact (o : Output) : hasCycle o = true ↔ ∃ v, Path (buildGraph o) v v := cyclic_iff_path _

/-- **the graph is the documented dependency relation**: resource `b` is reachable from resource `a`
in the graph `buildGraph` constructs (with its auxiliary tag / decorate / decorator nodes) iff `a`
transitively depends on `b` in the relation the documentation states (`ConfigDep`: own arguments,
carriers of requested tags, dependencies of decorators attached to carried tags, referenced parameters) -/
theorem graph_faithful (o : Output) (a b : Res) :
    Path (buildGraph o) a.node b.node ↔ TC (ConfigDep o) a b :=
  path_iff_tc o a b

/-- **the verdict in the documentation's terms**: the configuration is cyclic iff some service or
parameter transitively depends on itself -/
theorem cyclic_documented (o : Output) : hasCycle o = true ↔ ∃ a : Res, TC (ConfigDep o) a a := by
  rw [cyclic_exact, cycle_iff_tc]

/-- what is assumed of the external cycle enumeration -/
structure CyclesSpec (g : G Node) (cs : List (List Node)) : Prop where
  sound : ∀ c ∈ cs, isCycle g c = true
  complete : (∃ v, Path g v v) → cs ≠ []

/-- **accepted iff acyclic**: with a cycle enumeration meeting `CyclesSpec`, the validator's list is
empty exactly when no node reaches itself — no acyclic configuration is rejected, no cyclic one accepted -/
theorem cycles_accept_iff (o : Output) (cs : List (List Node)) (spec : CyclesSpec (buildGraph o) cs) :
    cs = [] ↔ ¬ ∃ v, Path (buildGraph o) v v := by
  refine ⟨fun h hp => spec.complete hp h, fun h => ?_⟩
  cases cs with
  | nil => rfl
  | cons c rest =>
    obtain ⟨v, _, p⟩ := isCycle_sound _ c (spec.sound c List.mem_cons_self)
    exact absurd ⟨v, p⟩ h

/-- every reported line that the check accepts is a genuine cycle through its first element -/
theorem reported_cycle_is_cycle (o : Output) (c : List Node) (h : isCycle (buildGraph o) c = true) :
    ∃ v, c.head? = some v ∧ Path (buildGraph o) v v := isCycle_sound _ c h

/-- the edges of the graph are exactly those of its services (`serviceEdges`: tag → carrier, carrier → decorate(tag),
service → its argument dependencies), of its decorators (`decoratorEdges`: decorate(tag) → decorator, decorator → its
argument dependencies) and parameter → referenced parameter -/
theorem edges_exact (o : Output) (x y : Node) :
    (x, y) ∈ (buildGraph o).edges ↔
      (∃ s ∈ o.services, (x, y) ∈ serviceEdges s) ∨
      (∃ di ∈ o.decorators.zipIdx, (x, y) ∈ decoratorEdges di.2 di.1) ∨
      (∃ p ∈ o.params, ∃ q ∈ p.dependsOn, x = nParam p.name ∧ y = nParam q) :=
  mem_buildGraph_edges o x y

-- non-vacuity: a service cycle through a tag and a decorator
def demo : Output :=
  { services := [{ name := "a", tags := [{ name := "t", priority := 0 }] }, { name := "b", args := [{ code := "", raw := .null, depTags := ["t"] }] }],
    decorators := [{ tag := "t", decorator := "f", raw := "f", args := [{ code := "", raw := .null, depServices := ["b"] }] }] }
example : isCycle (buildGraph demo) [nService "a", nDecorate "t", nDecorator 0, nService "b", nTag "t", nService "a"] = true := by decide +kernel

-- non-vacuity of `cyclic_documented`: in `demo`, a depends on b through its decorator, b on a through the tag
example : ConfigDep demo (.service "a") (.service "b") :=
  ConfigDep.dec (s := { name := "a", tags := [{ name := "t", priority := 0 }] }) (tg := { name := "t", priority := 0 })
    (d := { tag := "t", decorator := "f", raw := "f", args := [{ code := "", raw := .null, depServices := ["b"] }] }) (i := 0)
    (.head _) (.head _) (.head _) rfl (.inl (.head _))

/-- **an accepted container's parameter evaluation terminates** (runtime model): when the `%reference%` relation between
declared parameters is acyclic — stated as the existence of a rank that decreases along it — the result of evaluating
parameter `id` (value or error) and the state left behind are the same for every recursion budget from `2·rank + 3` on,
so the budget of the model never decides the answer.
(Partial in one respect: the rank is a hypothesis here. `param_eval_terminates_acyclic` supplies it for every program whose
compiled graph is acyclic, and `param_eval_terminates` for every program that runs the compiler's output.) -/
theorem param_eval_terminates_partial (p : Runtime.Prog) (rk : String → Nat) (hr : Runtime.Ranked p rk) (id : String)
    (st : Runtime.St) (f g : Nat) (hf : Runtime.bound rk id ≤ f) (hg : Runtime.bound rk id ≤ g) :
    Runtime.getParam f p st id = Runtime.getParam g p st id :=
  Runtime.getParam_stable p rk hr id st f g hf hg

/-- … and **every program whose compiled dependency graph is acyclic has such a rank** (the number of nodes reachable in the
graph the cycle validator inspects), provided the recorded dependencies of a parameter cover the references the runtime follows
(the compile side of that is `C06.pattern_deps_all_refs`) -/
theorem param_eval_terminates_acyclic (p : Runtime.Prog) (hac : cyclic (buildGraph p.out) = false)
    (hd : Runtime.ParamDepsRecorded p) (id : String) (st : Runtime.St) (f g : Nat)
    (hf : Runtime.bound (fun n => rankOf (buildGraph p.out) (nParam n)) id ≤ f)
    (hg : Runtime.bound (fun n => rankOf (buildGraph p.out) (nParam n)) id ≤ g) :
    Runtime.getParam f p st id = Runtime.getParam g p st id :=
  Runtime.getParam_stable p _ (Runtime.ranked_of_acyclic p hac hd) id st f g hf hg

/-- the rank is bounded by the size of the graph, so `2·|V| + 3` is a budget that suffices for every parameter -/
theorem rank_le_nodes (o : Output) (a : Node) : rankOf (buildGraph o) a ≤ (buildGraph o).nodes.length := by
  unfold rankOf
  exact List.length_filter_le _ _

/-- the hypothesis `ParamDepsRecorded` of `param_eval_terminates_acyclic` holds for what the compiler produces: every parameter
`compileParams` emits records the references the runtime follows (tokenisation finds the same references whatever the import
table holds) -/
theorem compiled_params_recorded (p : Runtime.Prog) (i : Input.Input) (st : Imports.St)
    (hout : p.out.params = (Compile.compileParams i p.fns st).1) : Runtime.ParamDepsRecorded p := by
  intro prm hprm
  rw [hout] at hprm
  exact Runtime.compiled_params_recorded p i st prm hprm

/-- **an accepted container's parameter evaluation terminates**: for a program whose parameters are the compiler's output and
whose dependency graph the cycle validator accepts, no recursion budget from `2·|V| + 3` on decides an answer -/
theorem param_eval_terminates (p : Runtime.Prog) (i : Input.Input) (st0 : Imports.St)
    (hout : p.out.params = (Compile.compileParams i p.fns st0).1) (hac : cyclic (buildGraph p.out) = false)
    (id : String) (st : Runtime.St) (f g : Nat)
    (hf : 2 * (buildGraph p.out).nodes.length + 3 ≤ f) (hg : 2 * (buildGraph p.out).nodes.length + 3 ≤ g) :
    Runtime.getParam f p st id = Runtime.getParam g p st id := by
  have hb : Runtime.bound (fun n => rankOf (buildGraph p.out) (nParam n)) id ≤ 2 * (buildGraph p.out).nodes.length + 3 :=
    Nat.add_le_add_right (Nat.mul_le_mul_left 2 (rank_le_nodes p.out (nParam id))) 3
  exact param_eval_terminates_acyclic p hac (compiled_params_recorded p i st0 hout) id st f g (Nat.le_trans hb hf) (Nat.le_trans hb hg)

-- non-vacuity: a two-level chain of parameters is ranked
def demoParams : Runtime.Prog :=
  { out := { params := [{ name := "a", raw := .str "%b%x", code := "", dependsOn := ["b"] },
                        { name := "b", raw := .int 1, code := "", dependsOn := [] }] },
    imports := [], fns := [], env := [] }
example : Runtime.Ranked demoParams (fun n => if n = "a" then 1 else 0) := by
  unfold Runtime.Ranked
  decide +kernel

end GM.C07
