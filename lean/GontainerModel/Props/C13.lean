/-
C13 — getter API contract of the generated container. `compileGetter` decides the getter and the Must-methods; with the
regenerated method forms and reserved names, the validator's getter rules make all declared method names distinct.
-/
import GontainerModel.Model.Compile
import GontainerModel.Generated.Template
import GontainerModel.Lemmas.Methods
import GontainerModel.Lemmas.C13Aux
-- for its build only: the getter pattern the validator of this model applies (`Rx.goToken`) is the regenerated one by
-- `Pins.pin_input_regexServiceGetter`, so a change of that pattern in the code stops this module, and with it C13's check
import GontainerModel.Props.Pins
namespace GM.C13
open GM GM.Compile

/-- an explicit `must_getter: true` without a getter is rejected; nothing else is -/
theorem getter_error_iff (g : Option String) (mg dmg : Option Bool) :
    (compileGetter g mg dmg).2.2 ≠ [] ↔ (g.getD "" = "" ∧ mg = some true) := by
  rw [compileGetter, ne_eq, ite_cons_eq_nil, Decidable.not_not]
  cases mg <;> simp

/-- when Must-methods are generated, whatever the getter and whether or not the service is rejected:
`must_getter: true`, or unset with `default_must_getter: true` and a getter to derive them from -/
theorem must_getter_iff (g : Option String) (mg dmg : Option Bool) :
    (compileGetter g mg dmg).2.1 = true ↔ mg = some true ∨ (mg = none ∧ dmg = some true ∧ g.getD "" ≠ "") := by
  rw [compileGetter]
  cases mg with
  | some b => simp
  | none => rcases dmg with _ | _ | _ <;> simp

/-- **must-getter truth table**: Must-methods are generated exactly when the service has a getter and
`must_getter` is true, or unset with `default_must_getter` true -/
theorem must_getter_table (g : Option String) (mg dmg : Option Bool) (hg : g ≠ some "")
    (hacc : (compileGetter g mg dmg).2.2 = []) :
    (compileGetter g mg dmg).2.1 = true ↔
      g.isSome ∧ (mg = some true ∨ (mg = none ∧ dmg = some true)) := by
  rw [must_getter_iff]
  cases g with
  | none =>
    have : mg ≠ some true := fun e => (getter_error_iff none mg dmg).mpr ⟨rfl, e⟩ hacc
    simp [this]
  | some s =>
    have : s ≠ "" := fun e => hg (e ▸ rfl)
    simp [this]

/-- no getter (nor the rejected `must_getter: true`) ⇒ no methods at all: the emitted getter is empty and Must is off -/
theorem no_getter_no_methods (mg dmg : Option Bool) (h : mg ≠ some true) :
    (compileGetter none mg dmg).1 = "" ∧ (compileGetter none mg dmg).2.1 = false := by
  refine ⟨rfl, Bool.eq_false_iff.mpr fun hm => ?_⟩
  simpa [h] using (must_getter_iff none mg dmg).mp hm

/-- the method names the getter template declares for a compiled service -/
def methodNames (s : Output.Service) : List String :=
  if s.getter = "" then []
  else [s.getter, s.getter ++ "InContext"] ++
    (if s.mustGetter then ["Must" ++ s.getter, "Must" ++ s.getter ++ "InContext"] else [])

theorem method_set (s : Output.Service) (h : s.getter ≠ "") :
    methodNames s = if s.mustGetter then
        [s.getter, s.getter ++ "InContext", "Must" ++ s.getter, "Must" ++ s.getter ++ "InContext"]
      else [s.getter, s.getter ++ "InContext"] := by
  unfold methodNames
  cases s.mustGetter <;> simp [h]

/-- documented defaults: package `main`, type `Gontainer`, constructor `NewGontainer`, used exactly
when the attribute is absent -/
theorem meta_defaults (i : Input.Input) (st : Imports.St) :
    (compileMeta i st).1.pkg = i.mt.pkg.getD "main" ∧
    (compileMeta i st).1.containerType = i.mt.containerType.getD "Gontainer" ∧
    (compileMeta i st).1.containerConstructor = i.mt.containerConstructor.getD "NewGontainer" := by
  unfold compileMeta; simp

/-- no type given ⇒ the getter returns `interface{}` -/
theorem default_type (st : Imports.St) : (serviceType st none).2 = "interface{}" := rfl

/-- the reserved set the validator uses is the runtime container's method set plus the embedded field (regenerated tables) -/
theorem reserved_is_container_api :
    Validate.reservedGetters = Generated.rtContainerMethods ++ Generated.tplStructEmbedded := rfl

/-- the method declarations of the getter template (regenerated): G, GInContext and, only under
`MustGetter`, MustG, MustGInContext — the scheme `methodNames` states -/
theorem template_method_forms :
    Generated.tplGetterMethods = [("", "", false), ("", "InContext", false), ("Must", "", true), ("Must", "InContext", true)] := rfl

/-- the regenerated reserved table: no entry starts with "Must"; every "…InContext" entry has its stem in the table -/
theorem reserved_table_closed :
    (∀ r ∈ (Generated.rtContainerMethods ++ Generated.tplStructEmbedded).map String.toList, Methods.must.isPrefixOf r = false) ∧
    (∀ r ∈ (Generated.rtContainerMethods ++ Generated.tplStructEmbedded).map String.toList,
        Methods.ic.isSuffixOf r = true → r.take (r.length - Methods.ic.length) ∈ (Generated.rtContainerMethods ++ Generated.tplStructEmbedded).map String.toList) := by
  decide +kernel

/-- all method names the getter template can declare for getters `gs` (every form of the regenerated table) -/
def allMethodNames (gs : List String) : List String :=
  gs.flatMap fun g => Generated.tplGetterMethods.map fun m => m.1 ++ g ++ m.2.1

/-- **generated methods never collide**: for every input the validator accepts, the method names the
template declares — all four forms of every live getter — are pairwise distinct, and none equals a
method of the runtime container or the embedded field (both regenerated tables).  This is a statement
about all getter strings: "Must"/"InContext" cannot be produced by concatenation either
(`GetX` + `InContext` never equals `Must` + `Y`, etc.). -/
theorem methods_never_collide (i : Input.Input) (hacc : Validate.validateServices i = []) :
    (allMethodNames (C11.liveGetters (AMap.sorted i.services))).Nodup ∧
    ∀ x ∈ allMethodNames (C11.liveGetters (AMap.sorted i.services)),
      x ∉ Generated.rtContainerMethods ++ Generated.tplStructEmbedded :=
  method_names_distinct template_method_forms reserved_is_container_api reserved_table_closed.1 reserved_table_closed.2 _
    (live_getters_ok i hacc).1 (live_getters_ok i hacc).2

-- `default_must_getter` alone turns Must on for a service with a getter; `must_getter: true` without a getter is an error
example : (compileGetter (some "GetA") none (some true)).2.1 = true := by decide +kernel
example : (compileGetter none (some true) none).2.2 ≠ [] := by decide +kernel

end GM.C13
