/-
C18 — version compatibility gate: the decision on parsed versions (`Semver.gate`), the validator on the stored strings, and
what main.go makes of the linker-provided version before it hands it to the command.
-/
import GontainerModel.Model.Semver
import GontainerModel.Generated.Wiring
namespace GM.C18
open GM GM.Semver

/-- **The truth table.** For a build that parses as `b` and a configuration version that parses
as `g`: major 0 ⇒ accepted iff same major.minor; major ≥ 1 ⇒ accepted iff same major and
`g.minor ≤ b.minor`. -/
theorem gate_table (b g : Parsed) :
    (b.major = 0 → ((gate b (some g)).isNone ↔ (g.major = 0 ∧ g.minor = b.minor))) ∧
    (1 ≤ b.major → ((gate b (some g)).isNone ↔ (g.major = b.major ∧ g.minor ≤ b.minor))) := by
  refine ⟨fun h0 => ?_, fun h1 => ?_⟩
  · simp only [gate, if_pos h0]
    by_cases h : g.major = 0 ∧ g.minor = b.minor <;> simp [h]
  · simp only [gate, if_neg (Nat.ne_of_gt h1), ← Nat.not_lt]
    by_cases h : g.major = b.major <;> by_cases h2 : b.minor < g.minor <;> simp [h, h2]

/-- patch, prerelease and build suffixes never matter -/
theorem gate_ignores_patch_pre_build (b g : Parsed) (p p' : Nat) (x x' y y' : List Char) :
    gate { b with patch := p, pre := x, build := y } (some { g with patch := p', pre := x', build := y' })
      = gate b (some g) := rfl

/-- no declared version, or a build that is not a semantic version ⇒ the check is skipped -/
theorem gate_skipped (build : String) (given : Option String) :
    (given = none ∨ parseNoV build = none) → validateVersion build given = [] := by
  intro h
  unfold validateVersion
  rcases h with h | h
  · subst h; rfl
  · cases given with
    | none => rfl
    | some g => simp [h]

/-- end to end on the stored strings: with a valid build `B` and a stored version `V` (no leading
`v`, as the YAML layer guarantees), the validator's verdict is the gate's verdict on the parses -/
theorem validate_is_gate (build V : String) (b : Parsed) (hb : parseNoV build = some b)
    (hv : V.toList.head? ≠ some 'v') :
    (validateVersion build (some V) = []) ↔ (gate b (parseNoV V)).isNone := by
  unfold validateVersion
  simp only [hb, hv, ↓reduceIte]
  cases gate b (parseNoV V) <;> simp

/-- the YAML layer stores a version string iff `"v" ++ s` is a semantic version (`decodeVersion`), so a leading `v` is a
parse error (`vv…` is not a semantic version) -/
theorem decode_rejects_v_prefix (s : String) (hs : s.toList.head? = some 'v') :
    (decodeVersion s).toOption = none := by
  obtain ⟨cs, hl⟩ : ∃ cs, s.toList = 'v' :: cs := by
    cases hl : s.toList with
    | nil => rw [hl] at hs; cases hs
    | cons c cs => rw [hl] at hs; cases hs; exact ⟨cs, rfl⟩
  -- after the `v` that `parseNoV` puts in front a number must follow, and the second `v` is no digit
  have hint : parseInt ('v' :: cs) = none := rfl
  have hparse : parseNoV s = none := by rw [parseNoV, hl, parse, hint]
  rw [decodeVersion, hparse]
  rfl

/-- what main() hands to the build command is the `GitVersion` of the value `buildVersion()` returns (regenerated from
main.go). That `buildVersion()` computes `normalizeBuild` of the linker-provided version is NOT pinned textually: the check runs
the real function against `normalizeBuild` on a grid of spellings (correspondence `normalizeBuild`). -/
theorem pin_main_handed : Generated.mainVersionHanded = "$bv.GitVersion" := rfl

/-- **a leading `v` of the linker-provided version is stripped whenever the rest is a semantic
version** — whatever prerelease or build suffix it carries — so the gate sees exactly `B` -/
theorem linker_v_stripped (B : String) (hB : (parseNoV B).isSome) : normalizeBuild ("v" ++ B) = B := by
  unfold normalizeBuild isValid
  have hl : ("v" ++ B).toList = 'v' :: B.toList := by simp [String.toList_append]
  unfold parseNoV at hB
  simp [hl, hB]

/-- … hence the verdict for a linker version `vB` is the verdict for `B` -/
theorem linker_gate (B : String) (hB : (parseNoV B).isSome) (g : Option String) :
    validateVersion (normalizeBuild ("v" ++ B)) g = validateVersion B g := by
  rw [linker_v_stripped B hB]

/-- a linker version that is not a semantic version is handed on unchanged -/
theorem linker_non_semver (l : String) (h : isValid l = false) : normalizeBuild l = l := by
  unfold normalizeBuild
  simp [h]

/-- **the version the gate sees depends on the linker's `version` value alone**: whatever commit, tree state, date and builder
the linker injects as well, and whatever the Go build info provides as defaults (model of the whole callback of
`main.buildVersion`, run against the real function on every check) -/
theorem linker_version_alone (d : Info) (v c di da bb : String) (hv : v ≠ "") :
    (applyLinker d v c di da bb).gitVersion = normalizeBuild v := by
  simp [applyLinker, hv]

/-- without a linker version the (normalised) default of the Go build info is used — `devel` builds skip the gate (`gate_skipped`) -/
theorem linker_version_default (d : Info) (c di da bb : String) :
    (applyLinker d "" c di da bb).gitVersion = normalizeBuild d.gitVersion := by
  simp [applyLinker]

/-- the build-info line of the generated file's header starts with that version … -/
theorem buildInfo_starts_with_version (i : Info) : ∃ suffix, buildInfo i = i.gitVersion ++ suffix := by
  refine ⟨(if i.gitCommit != "unknown" then " " ++ i.gitCommit ++ (if i.treeState != "unknown" then "-" ++ i.treeState else "") else "") ++
          (if i.buildDate != "unknown" then " (build date " ++ i.buildDate ++ ")" else ""), ?_⟩
  unfold buildInfo
  by_cases h1 : i.gitCommit != "unknown" <;> by_cases h3 : i.buildDate != "unknown" <;> simp [h1, h3, String.append_assoc]

/-- the build information is exactly the version when commit, tree state and date are unknown -/
theorem buildInfo_plain (v bb : String) : buildInfo ⟨v, "unknown", "unknown", "unknown", bb⟩ = v := by
  simp [buildInfo]

-- non-vacuity: the table is exercised by real version strings
example : buildInfo (applyLinker ⟨"devel", "unknown", "unknown", "unknown", "unknown"⟩ "v1.2.3" "abc" "true" "" "") = "1.2.3 abc-dirty" := by decide +kernel
example : normalizeBuild "v1.4.2+build5" = "1.4.2+build5" ∧ normalizeBuild "dev" = "dev" ∧ normalizeBuild "1.4.2" = "1.4.2" := by decide +kernel
example : parse "v0.3.1-alpha.1+b7".toList = some ⟨0, 3, 1, "-alpha.1".toList, "+b7".toList⟩ := by decide +kernel
example : validateVersion "0.3.0" (some "0.3.9") = [] := by decide +kernel
example : validateVersion "0.3.0" (some "0.2.0") ≠ [] := by decide +kernel
example : validateVersion "1.3.0" (some "1.2.7") = [] ∧ validateVersion "1.2.0" (some "1.3.0") ≠ [] ∧
    validateVersion "1.0.0" (some "2.0.0") ≠ [] ∧ validateVersion "dev-main" (some "9.9.9") = [] := by decide +kernel

end GM.C18
