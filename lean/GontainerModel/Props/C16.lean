/-
C16 — ignore flags only narrow the set of diagnostics: in the runner model they are read by the two switches of
"Validate output" (`Runner.outputErrs`) and by nothing else.
-/
import GontainerModel.Lemmas.Runner
import GontainerModel.Generated.Wiring
namespace GM.C16
open GM GM.Runner

/-- **a flag suppresses exactly its own class**: with flags `F` the diagnostics are those of the
flag-free run minus the missing-parameter (resp. missing-service) diagnostics; every other
diagnostic is reported unchanged and in the same order -/
theorem flags_narrow (fl : Flags) (o : Output.Output) (ce : Errs) :
    outputErrs fl o ce =
      Output.validateScopes o ++ ce ++
      (if fl.ignoreParams then [] else Output.validateParamsExist o) ++
      (if fl.ignoreServices then [] else Output.validateServicesExist o) ∧
    outputErrs { fl with ignoreParams := false, ignoreServices := false } o ce =
      Output.validateScopes o ++ ce ++ Output.validateParamsExist o ++ Output.validateServicesExist o := by
  constructor <;> rfl

/-- with a flag set, output validation accepts iff all remaining violations belong to an ignored class -/
theorem accept_iff_rest_ignored (fl : Flags) (o : Output.Output) (ce : Errs) :
    outputErrs fl o ce = [] ↔
      Output.validateScopes o = [] ∧ ce = [] ∧
      (fl.ignoreParams = false → Output.validateParamsExist o = []) ∧
      (fl.ignoreServices = false → Output.validateServicesExist o = []) := by
  unfold outputErrs
  cases fl.ignoreParams <;> cases fl.ignoreServices <;> simp [List.append_eq_nil_iff]

/-- the code generator and the input the read-config step returns are the same whatever the ignore flags are (the compile
step sees only that input and the version) -/
theorem flags_only_in_validation (w : World) (a b : Bool) (o : Output.Output) :
    codegen { w with flags := { w.flags with ignoreParams := a, ignoreServices := b } } o = codegen w o ∧
    (verbose "" "Read config" true Input.defaults fun ind =>
        readConfig { w with flags := { w.flags with ignoreParams := a, ignoreServices := b } } ind Input.defaults).st =
    (verbose "" "Read config" true Input.defaults fun ind => readConfig w ind Input.defaults).st :=
  ⟨rfl, rfl⟩

/-- a configuration accepted under some flags is accepted, with the same output, under flags that ignore at least as much -/
theorem accepted_ignoring_more (w : World) (c : Output.Output → Errs) (a b : Bool) (o : Output.Output)
    (ha : a = false → w.flags.ignoreParams = false) (hb : b = false → w.flags.ignoreServices = false)
    (h : accepted w c = .ok o) :
    accepted { w with flags := { w.flags with ignoreParams := a, ignoreServices := b } } c = .ok o := by
  obtain ⟨h1, h2, h3⟩ := (accepted_ok_iff w c o).mp h
  obtain ⟨hs, hc, hp, hv⟩ := (accept_iff_rest_ignored w.flags o (c o)).mp h3
  exact (accepted_ok_iff _ c o).mpr
    ⟨h1, h2, (accept_iff_rest_ignored _ o (c o)).mpr ⟨hs, hc, fun h => hp (ha h), fun h => hv (hb h)⟩⟩

/-- **a configuration accepted without flags yields the same result under any flag combination**:
same exit status and the same bytes written -/
theorem accepted_output_flag_independent (w : World) (c : Output.Output → Errs) (a b : Bool)
    (h0 : w.flags.ignoreParams = false ∧ w.flags.ignoreServices = false)
    (hacc : (run w c).exit = 0) :
    (run { w with flags := { w.flags with ignoreParams := a, ignoreServices := b } } c).exit = 0 ∧
    (run { w with flags := { w.flags with ignoreParams := a, ignoreServices := b } } c).file = (run w c).file := by
  rw [run_exit, core_snd] at hacc
  cases h : accepted w c with
  | error es =>
    rw [h, if_neg (accepted_error_ne_nil h)] at hacc
    cases hacc
  | ok o =>
    have h' := accepted_ignoring_more w c a b o (fun _ => h0.1) (fun _ => h0.2) h
    have hc : (core { w with flags := { w.flags with ignoreParams := a, ignoreServices := b } } c).2 = (core w c).2 := by
      rw [core_snd, core_snd, h, h']
      exact congrArg (·.2) (flags_only_in_validation w a b o).1
    exact ⟨by rw [run_exit, hc, core_snd]; exact hacc, congrArg (·.2) hc⟩

/-- the flags are wired to exactly the two existence rules (regenerated from cmd_build.go,
runner_builder.go and the shipped container): `--ignore-missing-params` ↦ `Active(!flag)` on the
step built from `ValidateParamsExist`, `--ignore-missing-services` ↦ the one from `ValidateServicesExist` -/
theorem flag_wiring :
    Generated.flagWiring =
      [("ignore-missing-params", "paramsExistActive", true, "MustGetStepValidateParamsExist"),
       ("ignore-missing-services", "servicesExistActive", true, "MustGetStepValidateServicesExist")] ∧
    Generated.getterService.lookup "GetStepValidateParamsExist" = some "stepOutputParamsExist" ∧
    Generated.getterService.lookup "GetStepValidateServicesExist" = some "stepOutputServicesExist" ∧
    Generated.argsAre ((Generated.wiring.lookup "stepOutputParamsExist").map (·.2.1)) ["!value output.ValidateParamsExist", "=Missing parameters"] = true ∧
    Generated.argsAre ((Generated.wiring.lookup "stepOutputServicesExist").map (·.2.1)) ["!value output.ValidateServicesExist", "=Missing services"] = true := by
  decide +kernel

end GM.C16
