/-
C03 — parameter and %pattern% evaluation. Build time is the chunker and the first-match token chain (`Token.tokenize`);
run time is the meaning of the emitted providers (`Token.evalTokens`) and the helpers of body.go.tpl (`Runtime.builtinFn`).
-/
import GontainerModel.Lemmas.Chunk
import GontainerModel.Lemmas.Escape
import GontainerModel.Lemmas.GoQuote
import GontainerModel.Model.Token
import GontainerModel.Lemmas.TokenClass
import GontainerModel.Lemmas.SimpleFn
import GontainerModel.Model.Runtime
import GontainerModel.Generated.Regex
import GontainerModel.Generated.Wiring
import GontainerModel.Model.Regexes
namespace GM.C03
open GM GM.Chunk

/-- A pattern is accepted by the chunker iff its number of `%` is even (unbalanced `%` is a
build-time error). -/
theorem chunks_ok_iff_even (s : List Char) : (chunks s).isSome ↔ s.count '%' % 2 = 0 := by
  by_cases hs : s = []
  · subst hs; simp [chunks, chunksE]
  · have hpar : (s.foldl step init).opened = (s.count '%' % 2 == 1) := (run_inv s).opened
    have hclosed : (chunks s).isSome ↔ (s.foldl step init).opened = false := by
      simp only [Option.isSome_iff_exists, chunks_eq_some_iff, chunksE_of_ne_nil hs, finishE_eq_ok_iff, exists_and_left,
        exists_eq, and_true]
    rw [hclosed, hpar]
    rcases Nat.mod_two_eq_zero_or_one (s.count '%') with e | e <;> rw [e] <;> decide

theorem chunks_flatten (s : List Char) (cs : List (List Char)) (h : chunks s = some cs) :
    cs.flatten = s := by
  rw [chunks_eq_some_iff] at h
  by_cases hs : s = []
  · subst hs; cases h; rfl
  · rw [chunksE_of_ne_nil hs, finishE_eq_ok_iff] at h
    obtain ⟨_, rfl⟩ := h
    rw [flatten_flush]
    exact (run_inv s).flatten

/-- Every chunk of a non-empty pattern is a non-empty `%`-free literal or a `%…%` token whose inside
is `%`-free (left-to-right pairing of delimiters). -/
theorem chunks_shape (s : List Char) (cs : List (List Char)) (h : chunks s = some cs) (hs : s ≠ []) :
    ∀ c ∈ cs, (c ≠ [] ∧ '%' ∉ c) ∨ (∃ x, c = '%' :: x ++ ['%'] ∧ '%' ∉ x) := by
  rw [chunks_eq_some_iff, chunksE_of_ne_nil hs, finishE_eq_ok_iff] at h
  obtain ⟨ho, rfl⟩ := h
  have hb := (run_inv s).buff
  rw [ho] at hb
  intro c hc
  rcases mem_flush.mp hc with hc | ⟨rfl, hne⟩
  · exact (run_inv s).chunks c hc
  · exact .inl ⟨hne, hb⟩

-- the expressions the token factories match with (regenerated from the compiled ones of /repo) are the model's
theorem pin_regexTokenRef : Generated.re_token_regexTokenRef = Rx.yamlToken ∧ Generated.kind_token_regexTokenRef = "full" := ⟨rfl, rfl⟩
theorem pin_regexSimpleFn : Generated.re_token_regexSimpleFn = Rx.simpleFn ∧ Generated.kind_token_regexSimpleFn = "full" := ⟨rfl, rfl⟩

/-- the factory order the model uses is the one wired in the shipped container (regenerated) -/
theorem factories_pinned :
    (Generated.wiring.lookup "tokenStrategyFactory").map (·.2.1) =
      some (Token.baseFactories.map Token.Factory.wiringName) := by decide +kernel

/-- the tokenizer is wired to the chunker and the strategy factory -/
theorem tokenizer_pinned :
    Generated.argsAre ((Generated.wiring.lookup "tokenizer").map (·.2.1)) ["@tokenChunker", "@tokenStrategyFactory"] = true ∧
    (Generated.wiring.lookup "patternResolver").map (·.2.1) = some ["@tokenizer"] ∧
    Generated.argsAre ((Generated.wiring.lookup "fnRegisterer").map (·.2.1)) ["@tokenStrategyFactory", "@imports"] = true := by decide +kernel

/-- what `GetParam` yields for a string parameter: tokenise the pattern (functions registered in
`fns`), then run the emitted providers against the run-time environment `env` -/
def evalPattern (fns : List Token.FnDef) (env : Token.Env) (p : List Char) : Except Errs Val :=
  match (Token.tokenize fns {} (String.ofList p)).2 with
  | .ok ts => (Token.evalTokens env ts).mapError fun e => [e]
  | .error es => .error es

/-- **any string whose every `%` is doubled evaluates to the original string** — for every string,
whatever functions are registered and whatever the environment is -/
theorem escape_roundtrip (fns : List Token.FnDef) (env : Token.Env) (s : List Char) :
    evalPattern fns env (Escape.escape s) = .ok (.str (String.ofList s)) := by
  obtain ⟨cs, hcs, hesc, hun⟩ := Escape.chunks_escape s
  obtain ⟨ts, hts, hsem⟩ :=
    Escape.tokenize_escaped fns {} (s := String.ofList (Escape.escape s)) (by rwa [String.toList_ofList]) hesc
  rw [evalPattern, hts]
  show (Token.evalTokens env ts).mapError _ = _
  rw [Escape.evalTokens_lits env ts _ hsem, Escape.join_unesc, hun]
  rfl

/-- **the emitted Go literal denotes the original text**: whatever string the compiler writes into
generated code with `%+q` (literal chunks, parameter names, service ids, error texts), reading the
literal back as Go does yields exactly that string -/
theorem literal_roundtrip (s : String) : GoQuote.unquote (Val.quoteStr s).toList = some s.toList := by
  simp [Val.quoteStr, GoQuote.unquote_quote]

/-- … and the literal is pure ASCII -/
theorem literal_ascii (s : String) : ∀ x ∈ (Val.quoteStr s).toList, x.toNat < 128 := by
  simp only [Val.quoteStr, String.toList_ofList]
  exact GoQuote.quote_ascii s.toList

/-- **a single-chunk pattern preserves the value's type**: one token ⇒ the provider's value, unchanged -/
theorem single_chunk_preserves_type (env : Token.Env) (t : Token.Token) :
    Token.evalTokens env [t] = Token.evalToken env t := rfl

/-- **a multi-chunk pattern concatenates the documented string casts** -/
theorem multi_chunk_concatenates (env : Token.Env) (t1 t2 : Token.Token) (ts : List Token.Token) :
    Token.evalTokens env (t1 :: t2 :: ts) =
      ((t1 :: t2 :: ts).mapM (Token.evalToken env)).map fun vs => .str (String.join (vs.map Val.castToString)) := rfl

/-- a failing function yields an error naming the token -/
theorem fn_error_names_token (env : Token.Env) (t : Token.Token) (fn goFn params e : String)
    (hs : t.sem = .call fn goFn params) (he : env.call goFn params = .error e) :
    Token.evalToken env t = .error ("cannot execute " ++ t.raw ++ ": " ++ e) := by
  simp [Token.evalToken, hs, he]


/-- **token classification** — the first-match chain (registered functions prepended, latest first, to the wired
base order) handles a chunk exactly as the documented decision list says: a call of a registered function,
`%%`, a `%name%` reference, an unknown function, a malformed `%…%` token, plain text — in this order -/
theorem token_classification (fns : List Token.FnDef) (chunk : String) :
    (Token.chain fns).find? (Token.supports · chunk) = some (Token.classify fns chunk) :=
  Token.chain_find fns chunk

/-- **`%fn(args)%`: the function name and the argument text the tool extracts are the ones written** — the leftmost-first
backtracking match of the regenerated `regexSimpleFn` (what `regex.Match` computes) succeeds iff the expression between the
delimiters is `Ident(…)` with no line break between the parentheses; then `fn` is the identifier and `params` the text between
the first `(` and the `)` that ends the expression (parentheses inside the arguments belong to the arguments) -/
theorem function_token_extraction (e : List Char) :
    Re.captures Generated.re_token_regexSimpleFn e =
      (Grammar.parseSimpleFn e).map fun fp => [("fn", fp.1), ("params", fp.2)] := by
  rw [pin_regexSimpleFn.1]
  exact Grammar.captures_simpleFn e

/-- **build-time rejection, exactly**: a balanced pattern is tokenised successfully iff none of its chunks is an
unknown-function or malformed token -/
theorem build_rejects_exactly (fns : List Token.FnDef) (st : Imports.St) (s : String) (cs : List (List Char))
    (h : chunksE s.toList = .ok cs) :
    (∃ ts, (Token.tokenize fns st s).2 = .ok ts) ↔ ∀ c ∈ cs, Token.rejected fns (String.ofList c) = false :=
  Token.tokenize_ok_iff fns st s cs h

/-- an unbalanced `%` is a build-time error that shows the unclosed rest -/
theorem unbalanced_rejected (fns : List Token.FnDef) (st : Imports.St) (s : String) (b : List Char)
    (h : chunksE s.toList = .error b) :
    (Token.tokenize fns st s).2 = .error ["not closed token: " ++ Val.quoteStr (String.ofList b)] := by
  unfold Token.tokenize
  simp [h]

/-- **`env`**: the variable's value when it is set (also when set to the empty string); otherwise the default when
one is given; otherwise an error naming the variable -/
theorem env_semantics (p : Runtime.Prog) (k : String) (rest : List Val) :
    Runtime.builtinFn p "getEnv" (.str k :: rest) =
      match p.env.lookup k, rest with
      | some v, _ => .ok (.str v)
      | none, (.str d) :: _ => .ok (.str d)
      | none, _ => .error ("environment variable " ++ Val.quoteStr k ++ " does not exist") := by
  rfl

/-- **`envInt`**: the variable parsed as an integer (an error naming it when it is not one), else the default, else an error -/
theorem envInt_semantics (p : Runtime.Prog) (k : String) (rest : List Val) :
    Runtime.builtinFn p "getEnvInt" (.str k :: rest) =
      match p.env.lookup k, rest with
      | some v, _ => (match v.toInt? with
        | some i => .ok (.int i)
        | none => .error ("cannot cast env(" ++ Val.quoteStr k ++ ") to int"))
      | none, (.int d) :: _ => .ok (.int d)
      | none, _ => .error ("environment variable " ++ Val.quoteStr k ++ " does not exist") := by
  rfl

/-- **`todo`**: an error — the given message, or `parameter todo` without arguments (for every argument list: `C15.todo_param_errors`) -/
theorem todo_semantics (p : Runtime.Prog) (m : String) (rest : List Val) :
    Runtime.builtinFn p "paramTodo" (.str m :: rest) = .error m ∧
    Runtime.builtinFn p "paramTodo" [] = .error "parameter todo" := by
  exact ⟨rfl, rfl⟩

/-- instances of the casts used by concatenation (`exporter.CastToString`): a string as it is, the booleans, nil, a float without type -/
theorem cast_table :
    Val.castToString (.str "x") = "x" ∧ Val.castToString (.bool true) = "true" ∧ Val.castToString (.bool false) = "false" ∧
    Val.castToString .null = "nil" ∧ Val.castToString (.float "1.5") = "1.5" := ⟨rfl, rfl, rfl, rfl, rfl⟩

-- non-vacuity: an escaped string; a four-chunk pattern, an unbalanced one, one that ends in `%%`
example : Escape.escape ['5', '0', '%', ' ', 'o', 'f', 'f'] = ['5', '0', '%', '%', ' ', 'o', 'f', 'f'] := by decide +kernel
example : chunks ['%','a','%',' ','b','%','%','c'] = some [['%','a','%'],[' ','b'],['%','%'],['c']] := by decide +kernel
example : chunks ['%','a',' ','b'] = none := by decide +kernel
example : (chunks ['a','%','%']).isSome ∧ ['a','%','%'] ≠ [] := by decide +kernel

-- inner parentheses stay in `params`; a line break, a leading digit are refused
example : Grammar.parseSimpleFn ['e','n','v','(','"','A','"',',',' ','f','(','1',')',')'] = some (['e','n','v'], ['"','A','"',',',' ','f','(','1',')']) := by decide +kernel
example : Grammar.parseSimpleFn ['e','n','v','(','\n',')'] = none := by decide +kernel
example : Grammar.parseSimpleFn ['1','f','(',')'] = none := by decide +kernel

end GM.C03
