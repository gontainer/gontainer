/-
C04 — tagged collections and decorators are applied as documented. Compile side: tags and decorators are copied in declared
order. Run time, over the runtime model: `getTagged` is the sequence of `get`s in `taggedOrder`, the decorator pass is the pass
over the decorators of carried tags.
-/
import GontainerModel.Lemmas.Compile
import GontainerModel.Model.Runtime
import GontainerModel.Lemmas.TaggedRuntime
namespace GM.C04
open GM

/-- the services that carry `tag`, with their priorities, in `Output` order -/
def carriers (o : Output.Output) (tag : String) : List (String × Int) :=
  o.services.filterMap fun s => (s.tags.find? (·.name == tag)).map fun t => (s.name, t.priority)

/-- **exactly the tagged services**: the listed names are a permutation of the carriers of the tag -/
theorem tagged_exact (o : Output.Output) (tag : String) :
    (Runtime.taggedOrder o tag).Perm ((carriers o tag).map (·.1)) := by
  unfold Runtime.taggedOrder carriers
  exact (List.mergeSort_perm _ _).map _

theorem tagged_mem (o : Output.Output) (tag n : String) :
    n ∈ Runtime.taggedOrder o tag ↔ ∃ s ∈ o.services, s.name = n ∧ (s.tags.any (·.name == tag)) = true := by
  rw [(tagged_exact o tag).mem_iff]
  simp only [carriers, List.mem_map, List.mem_filterMap, Option.map_eq_some_iff, List.any_eq_true]
  constructor
  · rintro ⟨_, ⟨s, hs, t, ht, rfl⟩, rfl⟩
    exact ⟨s, hs, rfl, t, List.mem_of_find?_eq_some ht, (List.find?_some ht :)⟩
  · rintro ⟨s, hs, rfl, t, ht, hp⟩
    have : (s.tags.find? (·.name == tag)).isSome = true := List.find?_isSome.mpr ⟨t, ht, hp⟩
    obtain ⟨t', hf⟩ := Option.isSome_iff_exists.mp this
    exact ⟨_, ⟨s, hs, t', hf, rfl⟩, rfl⟩

/-- **ordered by priority descending, then name ascending** -/
theorem tagged_sorted (o : Output.Output) (tag : String) :
    ((carriers o tag).mergeSort tagLe).Pairwise (fun a b => tagLe a b = true) ∧
    Runtime.taggedOrder o tag = ((carriers o tag).mergeSort tagLe).map (·.1) := by
  refine ⟨List.pairwise_mergeSort tagLe_trans tagLe_total _, ?_⟩
  unfold Runtime.taggedOrder carriers tagLe
  rfl

/-- the decorators the runtime applies to a service: those whose tag the service carries -/
def decoratorsFor (o : Output.Output) (s : Output.Service) : List Output.Decorator :=
  o.decorators.filter fun d => s.tags.any (·.name == d.tag)

/-- **declaration order**: the applied decorators are a sublist of the decorator list, in list order -/
theorem decorators_in_declaration_order (o : Output.Output) (s : Output.Service) :
    (decoratorsFor o s).Sublist o.decorators ∧
    ∀ d, d ∈ decoratorsFor o s ↔ d ∈ o.decorators ∧ (s.tags.any (·.name == d.tag)) = true := by
  unfold decoratorsFor
  exact ⟨List.filter_sublist, fun d => by simp [List.mem_filter]⟩

/-- compilation keeps the decorator list as declared: same length, same order, same tags and functions; merged files
concatenate their lists (`decorator_order_across_files`), so file order is the compiled order -/
theorem decorator_order_compiled (i : Input.Input) (fns : List Token.FnDef) (st : Imports.St) :
    (Compile.compileDecorators i fns st).1.map (fun d => (d.tag, d.raw)) =
      i.decorators.map (fun d => (d.tag, d.decorator)) :=
  (Compile.compileDecorators_emits i fns st).map_out _ _ (by rintro d _ _ ⟨st, dec, rfl⟩; rfl)

theorem decorator_order_across_files (a b : Input.Input) :
    (Input.merge a b).decorators = a.decorators ++ b.decorators := rfl

theorem tags_copied (name : String) (svc : Input.Service) (dm : Option Bool)
    (fns : List Token.FnDef) (st : Imports.St) (h : svc.todo.getD false = false) :
    (Compile.compileService name svc dm fns st).1.tags.map (fun t => (t.name, t.priority)) =
      svc.tags.map (fun t => (t.name, t.priority)) := by
  obtain ⟨-, -, -, htags⟩ := Compile.compileService_live name svc dm fns st h
  exact htags

/-- **`!tagged t` / `GetTaggedBy(t)` injects exactly the tagged services, in the documented order, each built per its own
definition** (no service overridden): the call is the sequence of `get`s of the names `taggedOrder` lists (priority descending,
then name ascending — `tagged_exact`, `tagged_sorted`), with the state and the context bag handed from one to the next; the
first failure fails the whole call -/
theorem tagged_at_run_time (f : Nat) (p : Runtime.Prog) (st : Runtime.St) (bag : Runtime.Bag) (tag : String) (hov : st.ovServices = []) :
    Runtime.getTagged (f + 1) p st bag tag =
      match Runtime.getAll (fun st bag n => Runtime.get f p st bag n) st bag (Runtime.taggedOrder p.out tag) with
      | (st', bag', .ok vs) => (st', bag', .ok (.slice vs))
      | (st', bag', .error e) => (st', bag', .error ("getTaggedBy(" ++ Val.quoteStr tag ++ "): " ++ e)) := by
  unfold Runtime.getTagged Runtime.taggedOrder
  simp only [hov, List.lookup, Option.isSome_none, Bool.false_eq_true, ↓reduceIte]
  generalize List.mergeSort _ _ = cs
  obtain ⟨vs, h⟩ := Runtime.taggedFold_getAll (fun st bag n => Runtime.get f p st bag n) cs st bag []
  rw [h]
  rcases Runtime.getAll _ st bag _ with ⟨s2, b2, e | vs'⟩ <;> rfl

/-- **every decorator is applied to every service carrying its tag, and only to those, in declaration order**: the decorator
pass over the whole list does to the object, the state and the error exactly what the pass over `decoratorsFor` (the sublist
of decorators whose tag the service carries, in list order — `decorators_in_declaration_order`) does. That a step hands the
decorator the tag, the service name, the current object and then its resolved arguments, that its result replaces the object
and that the pass follows the last call is by definition (`Runtime.decoStep`, `Runtime.getBody`) -/
theorem decorators_at_run_time (ras : Runtime.St → Runtime.Bag → List Output.Arg → Runtime.St × Runtime.Bag × Except String (List Runtime.RV))
    (p : Runtime.Prog) (s : Output.Service) (id : String) (st : Runtime.St) (bag : Runtime.Bag) (cur : Runtime.RV) :
    let r := p.out.decorators.foldl (Runtime.decoStep ras p s id) (st, bag, cur, none, 0)
    let r' := (decoratorsFor p.out s).foldl (Runtime.decoStep ras p s id) (st, bag, cur, none, 0)
    (r.1, r.2.1, r.2.2.1, r.2.2.2.1) = (r'.1, r'.2.1, r'.2.2.1, r'.2.2.2.1) :=
  Runtime.decoFold_filter ras p s id p.out.decorators st bag cur none 0

-- non-vacuity: negative, equal and large priorities
def demo : Output.Output :=
  { services := [{ name := "b", tags := [{ name := "t", priority := 5 }] }, { name := "a", tags := [{ name := "t", priority := 5 }] },
                 { name := "c", tags := [{ name := "t", priority := -1 }] }, { name := "d", tags := [{ name := "t", priority := 100 }] },
                 { name := "e", tags := [{ name := "u", priority := 0 }] }] }
example : carriers demo "t" = [("b", 5), ("a", 5), ("c", -1), ("d", 100)] := by decide +kernel
example : tagLe ("d", 100) ("a", 5) = true ∧ tagLe ("a", 5) ("b", 5) = true ∧ tagLe ("b", 5) ("c", -1) = true := by decide +kernel

end GM.C04
