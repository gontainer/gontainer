/-
C14 — package references resolve to exactly the package the alias table denotes. Aliases are distinct and free of `/`
(`TableOk`), so at most one is the whole first segment of a reference: the first match of `decorateImport` over a Go map does
not depend on the iteration order. The import table keeps paths and local names pairwise distinct (`TInv`).
-/
import GontainerModel.Lemmas.Imports
import GontainerModel.Generated.Regex
import GontainerModel.Model.Regexes
namespace GM.C14
open GM GM.Imports

/-- An alias table whose aliases are pairwise distinct and contain no `/` (which validation
guarantees: aliases match `YamlToken`). -/
structure TableOk (tbl : List (String × String)) : Prop where
  nodup : (tbl.map Prod.fst).Nodup
  noSlash : ∀ p ∈ tbl, '/' ∉ p.1.toList

theorem TableOk.match_unique {tbl : List (String × String)} (ok : TableOk tbl) (r : String) {x y : String × String}
    (hx : x ∈ tbl) (hy : y ∈ tbl) (px : segMatch x.1.toList r.toList = true) (py : segMatch y.1.toList r.toList = true) :
    x = y :=
  eq_of_nodup_map Prod.fst ok.nodup hx hy
    (String.ext (segMatch_unique (ok.noSlash x hx) (ok.noSlash y hy) px py))

/-- **Whole segments only, independent of iteration order.** `decorateImport` ranges over a Go
map; for ANY iteration order `σ` of the table the result is the same. -/
theorem resolve_order_independent (tbl σ : List (String × String)) (hσ : σ.Perm tbl) (ok : TableOk tbl)
    (r : String) : decorate σ r = decorate tbl r := by
  unfold decorate
  rw [find_perm_unique hσ fun x hx y hy px py => ok.match_unique r (hσ.subset hx) (hσ.subset hy) px py]

/-- … and that result is the documented one: if alias `a ↦ path` is in the table and `a` is the
reference's whole first path segment, the segment is replaced by `path`; … -/
theorem resolve_hit (tbl : List (String × String)) (ok : TableOk tbl) (a path r : String)
    (hin : (a, path) ∈ tbl) (hseg : firstSeg r.toList = a.toList)
    (hform : r.toList = a.toList ∨ ∃ rest, r.toList = a.toList ++ '/' :: rest) :
    decorate tbl r = path ++ String.ofList (r.toList.drop a.length) := by
  have hm : segMatch a.toList r.toList = true :=
    (segMatch_iff (ok.noSlash _ hin)).mpr ⟨hseg, hform⟩
  -- the predicate `p` is written out: inferring it from `hm` is slow
  rw [decorate, find?_eq_some_of_unique (p := fun p : String × String => segMatch p.1.toList r.toList) hin hm
    fun y hy py => ok.match_unique r hy hin py hm]

/-- … and if no alias is the reference's first path segment the reference is left alone — in
particular an alias that is a mere string prefix (`exp` vs `exp1/pkg`) does not match. -/
theorem resolve_miss (tbl : List (String × String)) (ok : TableOk tbl) (r : String)
    (h : ∀ p ∈ tbl, firstSeg r.toList ≠ p.1.toList) : decorate tbl r = r := by
  unfold decorate
  rw [List.find?_eq_none.mpr fun p hp hm => h p hp ((segMatch_iff (ok.noSlash p hp)).mp hm).1]

/-- a reference that resolves to a path not yet imported gets the name numbered by the counter; path and name are recorded -/
theorem alias_fresh (st : St) (p : String) (h : st.imports.lookup (decorate st.prefixes p) = none) :
    (alias st p).2 = localName st.counter (decorate st.prefixes p) ∧
    (alias st p).1.counter = st.counter + 1 ∧
    (alias st p).1.imports = (decorate st.prefixes p, localName st.counter (decorate st.prefixes p)) :: st.imports := by
  rw [alias_miss h]
  exact ⟨rfl, rfl, rfl⟩

/-- **One import per package.** A second reference that resolves to the same path (whatever its
written form) gets the same local name and changes nothing in the table. -/
theorem alias_memo (st : St) (p q : String) (h : decorate st.prefixes p = decorate st.prefixes q) :
    alias (alias st p).1 q = ((alias st p).1, (alias st p).2) :=
  alias_hit (by rw [alias_prefixes, ← h]; exact alias_lookup st p)

/-- instances of `syntax.SanitizeImport`: `"."` is the current package (no import), quotes are stripped, a bare path is kept -/
theorem sanitize_forms : sanitize "\".\"" = "" ∧ sanitize "\"my/pkg\"" = "my/pkg" ∧ sanitize "my/pkg" = "my/pkg" := by
  decide +kernel

/-- the import and alias expressions of the validators are the model's terms; `imports.regexNoAlphaNum`, where the tree
declares it, is `Rx.noAlphaNum`, unanchored -/
theorem pin_import_regex :
    Generated.re_input_regexMetaImport = Rx.import_ ∧ Generated.re_input_regexMetaImportAlias = Rx.yamlToken ∧
    (Generated.opt_imports_regexNoAlphaNum = none ∨ Generated.opt_imports_regexNoAlphaNum = some (Rx.noAlphaNum, "search")) :=
  ⟨rfl, rfl, by first | exact Or.inr rfl | exact Or.inl rfl⟩

/-- **Different packages never share a local name, one import per package** — for every alias
table and every sequence of references resolved from the empty table: the recorded paths are
pairwise distinct and so are the local names, whatever the last path elements look like (the hex
sequence number alone separates them: `i<hex n>_…` can be parsed back to `n`). -/
theorem local_names_distinct (pre : List (String × String)) (rs : List String) :
    ((aliasAll { prefixes := pre } rs).imports.map (·.1)).Nodup ∧
    ((aliasAll { prefixes := pre } rs).imports.map (·.2)).Nodup :=
  have h := tinv_aliasAll _ rs (tinv_init pre)
  ⟨h.paths, h.names⟩

/-- … and the same holds of the emitted import block (`Imports()`, sorted by path) -/
theorem import_block_distinct (pre : List (String × String)) (rs : List String) :
    ((importsList (aliasAll { prefixes := pre } rs)).map (·.1)).Nodup ∧
    ((importsList (aliasAll { prefixes := pre } rs)).map (·.2)).Nodup := by
  obtain ⟨h1, h2⟩ := local_names_distinct pre rs
  unfold importsList
  simp only [List.map_map]
  exact ⟨((List.mergeSort_perm _ _).map _).nodup_iff.mpr h2, ((List.mergeSort_perm _ _).map _).nodup_iff.mpr h1⟩

/-- **Two references get the same local name iff they denote the same package**: in any reachable
table, whatever is resolved in between, `p` and `q` receive one name exactly when they resolve to
one path -/
theorem same_name_iff_same_package (pre : List (String × String)) (before mid : List String) (p q : String) :
    let st := aliasAll { prefixes := pre } before
    let s1 := alias st p
    let s2 := aliasAll s1.1 mid
    let s3 := alias s2 q
    s1.2 = s3.2 ↔ decorate pre p = decorate pre q := by
  intro st s1 s2 s3
  have hpre : st.prefixes = pre := aliasAll_prefixes _ before
  have hpre2 : s2.prefixes = pre := (aliasAll_prefixes _ mid).trans ((alias_prefixes st p).trans hpre)
  have h3 : TInv s3.1 := tinv_alias _ q (tinv_aliasAll _ mid (tinv_alias _ p (tinv_aliasAll _ before (tinv_init pre))))
  have m1 : (decorate pre p, s1.2) ∈ s3.1.imports :=
    alias_mono s2 q _ (aliasAll_mono s1.1 mid _ (hpre ▸ mem_of_lookup_eq_some (alias_lookup st p)))
  have m2 : (decorate pre q, s3.2) ∈ s3.1.imports := hpre2 ▸ mem_of_lookup_eq_some (alias_lookup s2 q)
  exact h3.name_eq_iff m1 m2

-- non-vacuity, and finding D8: alias `exp` must not rewrite `exp1/ossuary/pkg`
example : TableOk [("exp", "exp1/my")] := ⟨by decide, by decide⟩
example : decorate [("exp", "exp1/my")] "exp1/ossuary/pkg" = "exp1/ossuary/pkg" := by decide +kernel
example : decorate [("exp", "exp1/my")] "exp/os" = "exp1/my/os" := by decide +kernel
example : decorate [("exp", "a"), ("exp1", "b")] "exp1/x" = decorate [("exp1", "b"), ("exp", "a")] "exp1/x" := by decide +kernel

end GM.C14
