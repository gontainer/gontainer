/-
C09 — multi-file merge semantics and split invariance.
`≈` (`Input.Equiv`): equal as configurations — identical scalar attributes, identical map
representations for parameters/meta, identical decorators, and the same service bound to every
name (the representation of the services map may list keys in a different order, which no
consumer can observe: everything downstream goes through `AMap.sorted`/`AMap.get`).
-/
import GontainerModel.Lemmas.Merge
import GontainerModel.Lemmas.ReadConfig
namespace GM.C09
open GM GM.Input

def Equiv (a b : Input) : Prop :=
  a.version = b.version ∧ a.mt = b.mt ∧ a.params = b.params ∧
  (∀ k, a.services.get k = b.services.get k) ∧ a.decorators = b.decorators

infix:50 " ≈ " => Equiv

/-- services: a name bound in both files is merged attribute-wise (`mergeService`), one bound in one file is taken over -/
theorem rule_services (a b : Input) (k : String) :
    (merge a b).services.get k = optMerge (a.services.get k) (b.services.get k) :=
  get_mergeServices ..

theorem merge_assoc (a b c : Input) : merge (merge a b) c ≈ merge a (merge b c) :=
  ⟨mergePtr_assoc .., mergeMeta_assoc .., mergeMap_assoc .., fun k => by simp only [rule_services, optMerge_assoc],
    List.append_assoc ..⟩

theorem merge_empty_left (a : Input) : merge {} a ≈ a :=
  ⟨mergePtr_none_left _, mergeMeta_empty_left _, mergeMap_nil_left _,
    fun k => (rule_services {} a k).trans (optMerge_none_left _), rfl⟩

theorem merge_empty_right (a : Input) : merge a {} ≈ a :=
  ⟨mergePtr_none_right _, mergeMeta_empty_right _, mergeMap_nil_right _,
    fun k => (rule_services a {} k).trans (optMerge_none_right _), List.append_nil _⟩

/-- equivalent inputs are indistinguishable to every consumer that iterates the services in
sorted-key order (as all of gontainer does) -/
theorem equiv_sorted_services (a b : Input) (h : a ≈ b) :
    AMap.sorted a.services = AMap.sorted b.services := by
  obtain ⟨-, -, -, hservices, -⟩ := h
  exact AMap.sorted_congr _ _ hservices

/-- scalars: the later file wins when it sets the attribute, otherwise the earlier value stays -/
theorem rule_scalar {α : Type} (a : Option α) (x : α) : mergePtr a (some x) = some x ∧ mergePtr a none = a := ⟨rfl, rfl⟩

/-- mappings: key-wise union, later value wins -/
theorem rule_map {V : Type} (a b : AMap V) (k : String) :
    (mergeMap a b).get k = match b.get k with | some v => some v | none => a.get k := by
  rw [get_mergeMap]
  cases b.get k <;> rfl

/-- arguments: later non-empty arguments replace the earlier ones -/
theorem rule_args (a b : List Val) : mergeArgs a b = if b = [] then a else b := by
  unfold mergeArgs; cases b <;> simp

/-- calls, tags (per service) and decorators are concatenated in file order -/
theorem rule_lists (s1 s2 : Service) (i1 i2 : Input) :
    (mergeService s1 s2).calls = s1.calls ++ s2.calls ∧ (mergeService s1 s2).tags = s1.tags ++ s2.tags ∧
    (merge i1 i2).decorators = i1.decorators ++ i2.decorators := ⟨rfl, rfl, rfl⟩

/-- splitting a mapping by ANY predicate on its keys and merging the parts gives back the same map -/
theorem split_map {V : Type} (m : AMap V) (p : String → Bool) (k : String) :
    (mergeMap (m.filter fun e => p e.1) (m.filter fun e => !p e.1)).get k = m.get k := by
  rw [get_mergeMap]
  unfold AMap.get
  rw [lookup_filter_key m p, lookup_filter_key m (fun x => !p x)]
  cases hp : p k <;> simp

/-- a service split into two attribute groups — scalars anywhere (the later one wins only where it
is set), calls and tags cut into prefix/suffix, fields partitioned by key, arguments kept whole in
one part — merges back to the original (fields up to map equality) -/
theorem split_service (s : Service) (n m : Nat) (p : String → Bool) (argsFirst : Bool)
    (pick : Fin 7 → Bool) :
    let part1 : Service :=
      { getter := if pick 0 then s.getter else none, mustGetter := if pick 1 then s.mustGetter else none,
        type := if pick 2 then s.type else none, value := if pick 3 then s.value else none,
        constructor := if pick 4 then s.constructor else none, scope := if pick 5 then s.scope else none,
        todo := if pick 6 then s.todo else none,
        args := if argsFirst then s.args else [], calls := s.calls.take n, tags := s.tags.take m,
        fields := s.fields.filter fun e => p e.1 }
    let part2 : Service :=
      { getter := if pick 0 then none else s.getter, mustGetter := if pick 1 then none else s.mustGetter,
        type := if pick 2 then none else s.type, value := if pick 3 then none else s.value,
        constructor := if pick 4 then none else s.constructor, scope := if pick 5 then none else s.scope,
        todo := if pick 6 then none else s.todo,
        args := if argsFirst then [] else s.args, calls := s.calls.drop n, tags := s.tags.drop m,
        fields := s.fields.filter fun e => !p e.1 }
    let r := mergeService part1 part2
    r.getter = s.getter ∧ r.mustGetter = s.mustGetter ∧ r.type = s.type ∧ r.value = s.value ∧
    r.constructor = s.constructor ∧ r.scope = s.scope ∧ r.todo = s.todo ∧ r.args = s.args ∧
    r.calls = s.calls ∧ r.tags = s.tags ∧ ∀ k, r.fields.get k = s.fields.get k := by
  intro part1 part2 r
  have hp : ∀ {α : Type} (b : Bool) (x : Option α),
      mergePtr (if b then x else none) (if b then none else x) = x := by
    intro α b x; cases b <;> cases x <;> rfl
  refine ⟨hp _ _, hp _ _, hp _ _, hp _ _, hp _ _, hp _ _, hp _ _, ?_, List.take_append_drop n s.calls,
    List.take_append_drop m s.tags, split_map s.fields p⟩
  show mergeArgs (if argsFirst then s.args else []) (if argsFirst then [] else s.args) = s.args
  cases argsFirst
  · exact mergeArgs_nil_left _
  · exact mergeArgs_nil_right _

/-- decorators cut into a prefix file and a suffix file merge back in order -/
theorem split_decorators (i : Input) (n : Nat) :
    (merge { i with decorators := i.decorators.take n } { decorators := i.decorators.drop n }).decorators
      = i.decorators := by
  simp [merge]

/-- `Input.readAll` (the fold of `merge` over decoded files, from the built-in defaults) can be cut anywhere: the later files
are merged onto the result of the earlier ones -/
theorem readAll_append (xs ys : List Input) :
    readAll (xs ++ ys) = ys.foldl merge (readAll xs) := by
  simp [readAll, List.foldl_append]

/-- **files are merged in the order of the -i patterns and, within one pattern, in byte-wise order of the cleaned paths**: for
every world (whatever `Glob`, `Clean` and reading return) the input the step returns is the left fold of `merge`, from the input it
was given (`Input.defaults` in `Runner.core`), over the files in that order; a file that cannot be read contributes nothing
(`Runner.mergeFile`; it fails the step, C10) -/
theorem files_read_in_documented_order (w : Runner.World) (ind : String) (i0 : Input) :
    (Runner.readConfig w ind i0).st = (Runner.filesInOrder w).foldl (Runner.mergeFile w) i0 := by
  by_cases hp : w.patterns = []
  · rw [Runner.readConfig_no_patterns w ind i0 hp, Runner.filesInOrder, hp]; rfl
  · obtain ⟨st, ha, hs, _⟩ := Runner.readConfig_spec w ind i0 hp
    rw [hs, ha.input]

/-- the read order, spelled out: patterns in the given order; the files of a pattern are its cleaned matches (each as often as it
was matched) in ascending byte-wise order -/
theorem read_order_spelled_out (w : Runner.World) :
    Runner.filesInOrder w = w.patterns.flatMap (fun p => (Runner.patternFiles w p).1) ∧
    ∀ p ms, w.glob p = .ok ms →
      (Runner.patternFiles w p).1.Perm (ms.map w.clean) ∧
      (Runner.patternFiles w p).1.Pairwise (fun a b => AMap.strLe a b = true) :=
  ⟨rfl, fun p ms h => Runner.patternFiles_sorted w p ms h⟩

/-- the order is byte-wise, not case-insensitive, numeric or by collation: `B` before `a`, `x10` before `x9`, `z` before `é` -/
theorem byte_order_examples :
    AMap.strLe "cfg/B.yaml" "cfg/a.yaml" = true ∧ AMap.strLe "cfg/a.yaml" "cfg/B.yaml" = false ∧
    AMap.strLe "cfg/x10.yaml" "cfg/x9.yaml" = true ∧ AMap.strLe "cfg/z.yaml" "cfg/é.yaml" = true ∧
    AMap.strLe "cfg/a-b/x.yaml" "cfg/a/x.yaml" = true := by decide +kernel

-- a key bound in both files: the later binding stands in front, and is the one `get` finds
example : merge { params := [("a", .int 1)] } { params := [("a", .int 2), ("b", .null)] }
    = { params := [("a", .int 2), ("b", .null), ("a", .int 1)] } := rfl
example : (mergeMap [("a", Val.int 1)] [("a", .int 2)]).get "a" = some (.int 2) := by decide

end GM.C09
