/-
C17 — `--stub` output has the same API surface as the real output.
Structural part, over the templates rendered symbolically in both modes (regenerated): deciding
ONLY the conditions on the Stub flag, the stub declares the same types and the same functions with
the same signatures (result names erased) as the normal output minus the `_helper` methods, every
stub body except `init()` is `panic("stub")`, `init()` is identical, and the stub starts with the
`gontainerstub` build constraint. That the two outputs compile and that user packages are referenced
in type positions only is observed per sample by the check, not proved.
-/
import GontainerModel.Generated.Stub
import GontainerModel.Generated.Template
import GontainerModel.Lemmas.Runner
namespace GM.C17
open GM

open Runner in
def withStub (w : World) (b : Bool) : World := { w with flags := { w.flags with stub := b } }

/-- same functions, same signatures: the stub's headers are the normal headers minus the helpers -/
theorem stub_same_surface :
    Generated.tplFuncsStub.map (·.1) = (Generated.tplFuncsNormal.filter (fun f => !f.2.2)).map (·.1) := by rfl

theorem stub_same_types : Generated.tplTypesStub = Generated.tplTypesNormal := by rfl

/-- the constructor and every getter panic; nothing else is in a stub body -/
theorem stub_bodies_panic :
    ∀ f ∈ Generated.tplFuncsStub, f.1 = "func init()" ∨ f.2.1 = "panic(\"stub\")" := by simp [Generated.tplFuncsStub]

/-- `init()` (the interface assertion) is the same in both modes -/
theorem stub_init_same :
    Generated.tplFuncsStub.find? (·.1 == "func init()") = Generated.tplFuncsNormal.find? (·.1 == "func init()") := by rfl

/-- the stub starts with the build constraint, the normal output with the `Code generated` line -/
theorem stub_constraint :
    Generated.tplHeadLinesStub.head? = some "//go:build gontainerstub" ∧ Generated.tplStubBuildTag = "gontainerstub" ∧
    Generated.tplHeadLinesNormal.head? = some "// Code generated by https://github.com/gontainer/gontainer; DO NOT EDIT." :=
  ⟨rfl, rfl, rfl⟩

/-- no helper method survives in the stub -/
theorem stub_has_no_helpers : ∀ f ∈ Generated.tplFuncsStub, f.2.2 = false := by decide +kernel

/-- **the accept/reject decision is the same in both modes** — over the model of the whole command (read, compile, validate,
generate, write): the `--stub` flag reaches nothing but the template builder, so the run ends without errors in one mode iff
it does in the other, PROVIDED the builder (templates + gofmt + goimports) accepts the compiled output in one mode iff in the
other and the write does not depend on the text. `_partial`: on the pinned tree the proviso fails when the only rejection
comes from the formatter (finding D13: a fragment that is not valid Go is emitted in normal mode only); the check observes the
verdict of both modes for every sample. -/
theorem verdict_mode_independent_partial (w : Runner.World) (c : Output.Output → Errs) (b : Bool)
    (hb : ∀ o, (w.build o true).toOption.isSome = (w.build o false).toOption.isSome)
    (hw : ∀ t t', (w.write w.outPath t).isSome = (w.write w.outPath t').isSome) :
    ((Runner.core (withStub w b) c).2.1 = []) ↔ ((Runner.core w c).2.1 = []) := by
  -- only the code generator sees the flag, and it succeeds in one mode iff in the other
  have key : ∀ (x y : Bool) o, (∃ t, w.build o x = .ok t ∧ w.write w.outPath t = none) →
      ∃ t, w.build o y = .ok t ∧ w.write w.outPath t = none := by
    intro x y o ⟨t, ht, hwt⟩
    have hxy : (w.build o x).toOption.isSome = (w.build o y).toOption.isSome := by
      cases x <;> cases y <;> simp [hb o]
    cases hby : w.build o y with
    | error e => simp [ht, hby, Except.toOption] at hxy
    | ok t' => exact ⟨t', rfl, by simpa [hwt] using (hw t t').symm⟩
  rw [Runner.core_snd, Runner.core_snd, show Runner.accepted (withStub w b) c = Runner.accepted w c from rfl]
  cases Runner.accepted w c with
  | error es => rfl
  | ok o =>
    rw [Runner.codegen_ok_iff, Runner.codegen_ok_iff]
    exact ⟨key _ _ o, key _ _ o⟩

/-- under the same hypotheses the exit status does not depend on the mode either -/
theorem exit_mode_independent_partial (w : Runner.World) (c : Output.Output → Errs) (b : Bool)
    (hb : ∀ o, (w.build o true).toOption.isSome = (w.build o false).toOption.isSome)
    (hw : ∀ t t', (w.write w.outPath t).isSome = (w.write w.outPath t').isSome) :
    (Runner.run (withStub w b) c).exit = (Runner.run w c).exit := by
  simp only [Runner.run_exit, verdict_mode_independent_partial w c b hb hw]

end GM.C17
