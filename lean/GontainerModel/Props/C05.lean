/-
C05 — scope semantics and the shared-on-contextual rule. Build time: the scope validator reports exactly the
(shared, contextual) pairs of the documented dependency relation. Run time, over the runtime model (tied to the real
runtime by level B): the resolved scope of an undeclared service, and what any history of calls does to the
container-wide cache, to the bags of contexts and to non_shared services.
-/
import GontainerModel.Lemmas.Graph
import GontainerModel.Lemmas.DepGraph
import GontainerModel.Model.Runtime
import GontainerModel.Lemmas.History
import GontainerModel.Lemmas.Rank
import GontainerModel.Lemmas.NonShared
import GontainerModel.Lemmas.Recorded
import GontainerModel.Generated.Template
namespace GM.C05
open GM GM.Graph GM.Output

/-- **the scope rule is exact** (graph form): `(s, c)` is reported iff `s` is a service declared
shared, `c` is declared contextual, and `c` is reachable from `s` in the dependency graph -/
theorem scope_errors_graph (o : Output) (s c : String) :
    (s, c) ∈ scopePairs o ↔
      (∃ sv ∈ o.services, sv.name = s) ∧ scopeOf o s = .shared ∧ scopeOf o c = .contextual ∧
      Path (buildGraph o) (nService s) (nService c) := by
  rw [mem_scopePairs, mem_reachD, List.mem_map]

/-- **the scope rule is exact** (the documentation's terms): `(s, c)` is reported iff `s` is a
service declared shared, `c` is declared contextual, and `s` transitively depends on `c` — through
arguments, fields and calls (`allArgs`), requested tags → their carriers, carried tags → decorators →
their dependencies.  Nothing else is reported. -/
theorem scope_errors_exact (o : Output) (s c : String) :
    (s, c) ∈ scopePairs o ↔
      (∃ sv ∈ o.services, sv.name = s) ∧ scopeOf o s = .shared ∧ scopeOf o c = .contextual ∧
      TC (ConfigDep o) (.service s) (.service c) := by
  rw [scope_errors_graph]
  exact and_congr_right' (and_congr_right' (and_congr_right' (path_iff_tc o (.service s) (.service c))))

/-- accepted for scope reasons ⇔ no pair: the diagnostics are one line per pair -/
theorem scope_accept_iff (o : Output) : validateScopes o = [] ↔ scopePairs o = [] := by
  unfold validateScopes
  simp [Errs.pfx]

/-- **resolved scope of an undeclared service** (runtime model of `warmUpScopes`): contextual iff a
service DECLARED contextual and not overridden is reachable, shared otherwise; declared scopes are kept -/
theorem resolved_scope (p : Runtime.Prog) (st : Runtime.St) (n : String) (s : Service)
    (hov : st.ovServices.lookup n = none) (hs : Runtime.svcByName p n = some s) :
    Runtime.effScope p st n =
      match s.scope with
      | .default =>
        if ((reachD (buildGraph p.out) (nService n)).filterMap isServiceNode).any
            (fun d => (st.ovServices.lookup d).isNone && scopeOf p.out d = .contextual) then .contextual else .shared
      | sc => sc := by
  unfold Runtime.effScope
  simp only [hov, hs]
  cases s.scope <;> simp

/-- keyword → compiled scope → emitted setter is one-to-one (regenerated template table) -/
theorem scope_keyword_mapping :
    Compile.scopeOut (some .shared) = .shared ∧ Compile.scopeOut (some .contextual) = .contextual ∧
    Compile.scopeOut (some .nonShared) = .nonShared ∧ Compile.scopeOut none = .default ∧
    Generated.tplScopeSetters = [("IsDefault", "SetScopeDefault"), ("IsShared", "SetScopeShared"),
      ("IsContextual", "SetScopeContextual"), ("IsNonShared", "SetScopeNonShared")] :=
  ⟨rfl, rfl, rfl, rfl, rfl⟩

/-- a shared service that is already cached is returned as is -/
theorem shared_once (f : Nat) (p : Runtime.Prog) (st : Runtime.St) (bag : Runtime.Bag) (n : String) (s : Service) (v : Runtime.RV)
    (hov : st.ovServices.lookup n = none) (hs : Runtime.svcByName p n = some s)
    (hsc : Runtime.effScope p st n = .shared) (hc : st.shared.lookup n = some v) :
    Runtime.get (f + 1) p st bag n = (st, bag, .ok v) := by
  rw [Runtime.get_declared f bag hov hs, hsc]
  dsimp only
  rw [hc]

/-- a contextual service already in the bag of the current call tree / context is returned as is -/
theorem contextual_once_per_bag (f : Nat) (p : Runtime.Prog) (st : Runtime.St) (bag : Runtime.Bag) (n : String) (s : Service) (v : Runtime.RV)
    (hov : st.ovServices.lookup n = none) (hs : Runtime.svcByName p n = some s)
    (hsc : Runtime.effScope p st n = .contextual) (hc : bag.lookup n = some v) :
    Runtime.get (f + 1) p st bag n = (st, bag, .ok v) := by
  rw [Runtime.get_declared f bag hov hs, hsc]
  dsimp only
  rw [hc]

/-- **undeclared scope** (the runtime's rule, as modelled): with nothing overridden, a service with no declared
scope is contextual iff it transitively depends — in the documented relation — on a service declared
contextual, and shared otherwise -/
theorem default_scope_documented (p : Runtime.Prog) (st : Runtime.St) (n : String) (s : Service)
    (hov : st.ovServices = []) (hs : Runtime.svcByName p n = some s) (hd : s.scope = .default) :
    (Runtime.effScope p st n = .contextual ↔
      ∃ c, scopeOf p.out c = .contextual ∧ TC (ConfigDep p.out) (.service n) (.service c)) ∧
    (Runtime.effScope p st n = .contextual ∨ Runtime.effScope p st n = .shared) := by
  have look : ∀ k, (st.ovServices.lookup k) = none := by intro k; rw [hov]; rfl
  unfold Runtime.effScope
  simp only [look, Option.isSome_none, Bool.false_eq_true, ↓reduceIte, hs, hd, Option.isNone_none, Bool.true_and]
  have reach : ∀ c, c ∈ (reachD (buildGraph p.out) (nService n)).filterMap isServiceNode ↔
      TC (ConfigDep p.out) (.service n) (.service c) := by
    intro c
    rw [← path_iff_tc, ← mem_reachD, List.mem_filterMap]
    constructor
    · rintro ⟨id, hid, hsome⟩
      cases id <;> cases hsome
      exact hid
    · exact fun h => ⟨_, h, rfl⟩
  split
  next hany =>
    obtain ⟨c, hc, hctx⟩ := List.any_eq_true.mp hany
    exact ⟨⟨fun _ => ⟨c, by simpa using hctx, (reach c).mp hc⟩, fun _ => rfl⟩, Or.inl rfl⟩
  next hany =>
    refine ⟨⟨fun h => Scope.noConfusion h, ?_⟩, Or.inr rfl⟩
    rintro ⟨c, hctx, htc⟩
    exact absurd (List.any_eq_true.mpr ⟨c, (reach c).mpr htc, by simpa using hctx⟩) hany

/-- the first successful `Get` of a service that resolves to shared puts it into the container-wide cache -/
theorem shared_first_get_caches (p : Runtime.Prog) (f : Nat) (st : Runtime.St) (bag : Runtime.Bag) (id : String) (s : Service)
    (v : Runtime.RV) (st' : Runtime.St) (bag' : Runtime.Bag)
    (hov : st.ovServices.lookup id = none) (hs : Runtime.svcByName p id = some s) (hsc : Runtime.effScope p st id = .shared)
    (hok : Runtime.get f p st bag id = (st', bag', .ok v)) : st'.shared.lookup id = some v := by
  cases f with
  | zero => simp [Runtime.get] at hok
  | succ f =>
    rw [Runtime.get_declared f bag hov hs, hsc] at hok
    dsimp only at hok
    cases hl : st.shared.lookup id with
    | some w =>
      rw [hl] at hok
      cases hok
      exact hl
    | none =>
      rw [hl] at hok
      obtain ⟨s4, b4, hfin⟩ := Runtime.getBody_ok_finish hok
      have hst : (Runtime.finishGet .shared id v s4 b4).1 = st' := congrArg (·.1) hfin
      rw [← hst]
      exact Runtime.lookup_cons_self id v _

/-- once a service is in the container-wide cache, any history keeps it there, never constructs it again, and every later
`Get` returns it — whatever the dependency relation looks like: a cache entry is only ever added for a key that had none
when the call started (`Runtime.HInv`) -/
theorem shared_once_any_history (p : Runtime.Prog) (F : Nat) (ops : List Runtime.Op) (st : Runtime.St) (id : String) (v : Runtime.RV)
    (hsc : Runtime.effScope p st id = .shared) (hc : st.shared.lookup id = some v) :
    (Runtime.runOps F p st ops).shared.lookup id = some v ∧
    (∃ suf, (Runtime.runOps F p st ops).evalLog = st.evalLog ++ suf ∧ ("ctor:" ++ id) ∉ suf) ∧
    (∀ (s : Service) (bag : Runtime.Bag) (f : Nat), st.ovServices.lookup id = none → Runtime.svcByName p id = some s →
      Runtime.get (f + 1) p (Runtime.runOps F p st ops) bag id = (Runtime.runOps F p st ops, bag, .ok v)) := by
  have h := Runtime.runOps_inv p F ops st
  have hkeep := h.sh.keeps hc
  refine ⟨hkeep, ?_, fun s bag f hov hs => ?_⟩
  · obtain ⟨suf, hl, hm⟩ := h.lg
    refine ⟨suf, hl, fun hmem => ?_⟩
    rw [(hm _ hmem).ctor hsc] at hc
    cases hc
  · have hsc' : Runtime.effScope p (Runtime.runOps F p st ops) id = .shared := by
      rw [Runtime.effScope_congr p st _ h.ovS]; exact hsc
    exact shared_once f p _ bag id s v (by rw [h.ovS]; exact hov) hs hsc' hkeep

/-- **a shared service is instantiated once per container**: `shared_once_any_history` — the histories are any mix, of any
length, of Get / GetInContext / GetTaggedBy / GetTaggedByInContext / GetParam calls and attached contexts. The rank
hypotheses `hsr`, `hpr`, here and in the three history theorems below, are not used by the proofs (`Lemmas/Rank.lean`) -/
theorem shared_once_per_container (p : Runtime.Prog) (rk rkP : String → Nat) (hsr : Runtime.SRanked p rk)
    (hpr : Runtime.Ranked p rkP) (F : Nat) (ops : List Runtime.Op) (st : Runtime.St) (id : String) (v : Runtime.RV)
    (hsc : Runtime.effScope p st id = .shared) (hc : st.shared.lookup id = some v) :
    (Runtime.runOps F p st ops).shared.lookup id = some v ∧
    (∃ suf, (Runtime.runOps F p st ops).evalLog = st.evalLog ++ suf ∧ ("ctor:" ++ id) ∉ suf) ∧
    (∀ (s : Service) (bag : Runtime.Bag) (f : Nat), st.ovServices.lookup id = none → Runtime.svcByName p id = some s →
      Runtime.get (f + 1) p (Runtime.runOps F p st ops) bag id = (Runtime.runOps F p st ops, bag, .ok v)) :=
  shared_once_any_history p F ops st id v hsc hc

/-- **a contextual service is instantiated once per attached context**: what the bag of context `c` holds stays there,
unchanged, across any history that does not attach `c` anew — whatever is done in other contexts or without one -/
theorem contextual_once_per_context (p : Runtime.Prog) (rk rkP : String → Nat) (hsr : Runtime.SRanked p rk)
    (hpr : Runtime.Ranked p rkP) (F : Nat) (ops : List Runtime.Op) (st : Runtime.St) (c : String)
    (hnew : Runtime.Op.newCtx c ∉ ops) (id : String) (v : Runtime.RV)
    (hc : (Runtime.bagOf st c).lookup id = some v) :
    (Runtime.bagOf (Runtime.runOps F p st ops) c).lookup id = some v :=
  (Runtime.runOps_bags p F ops st c hnew).keeps hc

/-- **contexts never share**: a call made in context `c'` (or in no context) leaves the bag of every other context `c`
exactly as it was -/
theorem contexts_are_separate (p : Runtime.Prog) (rk rkP : String → Nat) (hsr : Runtime.SRanked p rk)
    (hpr : Runtime.Ranked p rkP) (F : Nat) (st : Runtime.St) (o : Runtime.Op) (c : String)
    (hnew : o ≠ .newCtx c) (h1 : ∀ id, o ≠ .getCtx c id) (h2 : ∀ tag, o ≠ .taggedCtx c tag) :
    Runtime.bagOf (Runtime.stepOp F p st o).1 c = Runtime.bagOf st c :=
  Runtime.stepOp_bag_same p F st o c hnew h1 h2

/-- a plain `Get` is its own call tree: by definition of `stepOp` it starts from an empty bag and what it collected is dropped -/
theorem plain_get_has_fresh_bag (F : Nat) (p : Runtime.Prog) (st : Runtime.St) (id : String) :
    Runtime.stepOp F p st (.get id) = ((Runtime.get F p st [] id).1, (Runtime.get F p st [] id).2.2) := rfl

/-- **a non_shared service is built afresh for every injection and every Get**: a successful `get` of a service created by
a constructor whose scope resolves to non_shared returns an object allocated during that very call, and leaves the caches'
entries for it untouched — whoever asks (a `Get`, or the construction of a dependant) -/
theorem non_shared_always_fresh (p : Runtime.Prog) (rk rkP : String → Nat) (hsr : Runtime.SRanked p rk) (hpr : Runtime.Ranked p rkP)
    (f : Nat) (st : Runtime.St) (bag : Runtime.Bag) (id : String) (s : Service) (v : Runtime.RV) (st' : Runtime.St) (bag' : Runtime.Bag)
    (hov : st.ovServices.lookup id = none) (hs : Runtime.svcByName p id = some s) (hsc : Runtime.effScope p st id = .nonShared)
    (hc : (s.constructor != "") = true) (hok : Runtime.get f p st bag id = (st', bag', .ok v)) :
    Runtime.FreshIn st.next st' v ∧ st'.shared.lookup id = st.shared.lookup id ∧ bag'.lookup id = bag.lookup id :=
  Runtime.get_nonShared_fresh p f st bag id s v st' bag' hov hs hsc hc hok

/-- … and objects fresh in two consecutive serial intervals differ: the results of two such calls, the second started where the
first ended (or later: nothing lowers the serial counter, `HInv.nx`) -/
theorem non_shared_never_same (N : Nat) (st1 st2 : Runtime.St) (v1 v2 : Runtime.RV)
    (h1 : Runtime.FreshIn N st1 v1) (h2 : Runtime.FreshIn st1.next st2 v2) : v1 ≠ v2 := by
  rintro rfl
  cases v1 with
  | ref _ n => exact absurd (Nat.lt_of_lt_of_le h1.2 h2.1) (Nat.lt_irrefl n)
  | _ => exact h1

/-- **for every accepted configuration** (compiled dependency graph acyclic — what `ValidateCircularDeps` checks, C07 — and
the resolvers' recorded dependencies present): across any history a cached shared service stays cached and is not constructed again -/
theorem shared_once_for_acyclic (p : Runtime.Prog) (hac : cyclic (buildGraph p.out) = false)
    (hw : Runtime.ArgsRecorded p) (hd : Runtime.ParamDepsRecorded p) (F : Nat) (ops : List Runtime.Op) (st : Runtime.St)
    (id : String) (v : Runtime.RV) (hsc : Runtime.effScope p st id = .shared) (hc : st.shared.lookup id = some v) :
    (Runtime.runOps F p st ops).shared.lookup id = some v ∧
    (∃ suf, (Runtime.runOps F p st ops).evalLog = st.evalLog ++ suf ∧ ("ctor:" ++ id) ∉ suf) :=
  let h := shared_once_per_container p _ _ (Runtime.sranked_of_acyclic p hac hw) (Runtime.ranked_of_acyclic p hac hd) F ops st id v hsc hc
  ⟨h.1, h.2.1⟩

/-- … and what a context's bag holds stays there -/
theorem contextual_once_for_acyclic (p : Runtime.Prog) (hac : cyclic (buildGraph p.out) = false)
    (hw : Runtime.ArgsRecorded p) (hd : Runtime.ParamDepsRecorded p) (F : Nat) (ops : List Runtime.Op) (st : Runtime.St)
    (c : String) (hnew : Runtime.Op.newCtx c ∉ ops) (id : String) (v : Runtime.RV)
    (hc : (Runtime.bagOf st c).lookup id = some v) :
    (Runtime.bagOf (Runtime.runOps F p st ops) c).lookup id = some v :=
  contextual_once_per_context p _ _ (Runtime.sranked_of_acyclic p hac hw) (Runtime.ranked_of_acyclic p hac hd) F ops st c hnew id v hc

/-- **for every configuration the build accepts**: `p` runs what `Compile.compile` returned for the input `i` (with the function
table `compileMeta` registered) and the compiled dependency graph is acyclic (`ValidateCircularDeps`, C07). No recording
hypothesis is left: the compiler's output records every dependency the runtime follows (`compiled_recorded`). Then across ANY
history a cached shared service stays cached and is not constructed again. That `compile` succeeds on real inputs is shown by
no `example` here but by the correspondence: the model's `compile` returns the real compiler's output on every accepted sample. -/
theorem shared_once_for_compiled (p : Runtime.Prog) (bv : String) (i : Input.Input) (hc : Runtime.CompiledFrom p bv i)
    (hac : cyclic (buildGraph p.out) = false) (F : Nat) (ops : List Runtime.Op) (st : Runtime.St)
    (id : String) (v : Runtime.RV) (hsc : Runtime.effScope p st id = .shared) (hcache : st.shared.lookup id = some v) :
    (Runtime.runOps F p st ops).shared.lookup id = some v ∧
    (∃ suf, (Runtime.runOps F p st ops).evalLog = st.evalLog ++ suf ∧ ("ctor:" ++ id) ∉ suf) :=
  shared_once_for_acyclic p hac (Runtime.compiled_recorded p bv i hc).1 (Runtime.compiled_recorded p bv i hc).2 F ops st id v hsc hcache

/-- … and a contextual one once per context -/
theorem contextual_once_for_compiled (p : Runtime.Prog) (bv : String) (i : Input.Input) (hc : Runtime.CompiledFrom p bv i)
    (hac : cyclic (buildGraph p.out) = false) (F : Nat) (ops : List Runtime.Op) (st : Runtime.St)
    (c : String) (hnew : Runtime.Op.newCtx c ∉ ops) (id : String) (v : Runtime.RV)
    (hb : (Runtime.bagOf st c).lookup id = some v) :
    (Runtime.bagOf (Runtime.runOps F p st ops) c).lookup id = some v :=
  contextual_once_for_acyclic p hac (Runtime.compiled_recorded p bv i hc).1 (Runtime.compiled_recorded p bv i hc).2 F ops st c hnew id v hb

-- non-vacuity of the history theorems: a two-service program (a depends on the shared b and carries a tag) is ranked
def demoHist : Runtime.Prog :=
  { out := { services := [
      { name := "a", constructor := "fx.NewA", args := [{ code := "", raw := .str "@b", depServices := ["b"] }],
        tags := [{ name := "t", priority := 0 }] },
      { name := "b", constructor := "fx.NewA", scope := .shared }] },
    imports := [], fns := [], env := [] }
theorem demoHist_kind : Runtime.argKind { code := "", raw := .str "@b", depServices := ["b"] } = some .service := by decide +kernel
example : Runtime.SRanked demoHist (fun n => if n = "a" then 1 else 0) := by
  intro s hs d hd
  simp only [demoHist, List.mem_cons, List.not_mem_nil, or_false] at hs
  rcases hs with rfl | rfl
  · obtain ⟨a, ha, h⟩ | ⟨_, ⟨⟩, _⟩ | ⟨_, ⟨⟩, _⟩ | ⟨_, ⟨⟩, _⟩ := hd
    obtain rfl := List.mem_singleton.mp ha
    rcases h with ⟨_, rfl⟩ | ⟨h1, _⟩
    · decide
    · rw [demoHist_kind] at h1; cases h1
  · obtain ⟨_, ⟨⟩, _⟩ | ⟨_, ⟨⟩, _⟩ | ⟨_, ⟨⟩, _⟩ | ⟨_, ⟨⟩, _⟩ := hd
example : Runtime.Ranked demoHist (fun _ => 0) := by
  intro prm h; simp [demoHist] at h

-- … and it meets the hypotheses of the acyclic form
example : cyclic (buildGraph demoHist.out) = false := by decide +kernel
example : Runtime.ParamDepsRecorded demoHist := by intro prm h; simp [demoHist] at h
example : Runtime.ArgsRecorded demoHist := by
  constructor
  · intro s hs a ha
    simp only [demoHist, List.mem_cons, List.not_mem_nil, or_false] at hs
    rcases hs with rfl | rfl
    · simp [Output.Service.allArgs] at ha
      subst ha
      exact ⟨fun _ => by simp, fun h => by rw [demoHist_kind] at h; cases h⟩
    · simp [Output.Service.allArgs] at ha
  · intro d hd; simp [demoHist] at hd

end GM.C05
