/-
C02 — the generated container builds each service exactly as declared. Compile side: classification of
argument forms by the wired first-match chain, order preservation. Emission: the statement sequence the
constructor template emits for a service. The run-time part is the executable runtime model tied by level B.
-/
import GontainerModel.Lemmas.Compile
import GontainerModel.Model.Runtime
import GontainerModel.Model.Emit
import GontainerModel.Generated.Template
import GontainerModel.Generated.Wiring
import GontainerModel.Lemmas.Recorded
import GontainerModel.Lemmas.EmitCallee
namespace GM.C02
open GM GM.Compile

/-- the resolver chains are the ones wired in the shipped container (regenerated) -/
theorem chains_pinned :
    (Generated.wiring.lookup "argResolver").map (·.2.1) = some (argChain.map Resolver.wiringName) ∧
    (Generated.wiring.lookup "primitiveArgResolver").map (·.2.1) = some (paramChain.map Resolver.wiringName) ∧
    (Generated.wiring.lookup "paramResolver").map (·.2.1) = some ["@primitiveArgResolver"] ∧
    Generated.argsAre ((Generated.wiring.lookup "stepCompileServices").map (·.2.1)) ["@imports", "@argResolver"] = true ∧
    Generated.argsAre ((Generated.wiring.lookup "stepCompileDecorators").map (·.2.1)) ["@imports", "@argResolver"] = true ∧
    (Generated.wiring.lookup "gontainerValueResolver").map (·.2.1) =
      some ["!value consts.SpecialGontainerID", "!value consts.SpecialGontainerValue"] := by decide +kernel

/-- **classification, in chain order**: non-string primitive ↦ literal; a string with the `!value `
prefix ↦ Go expression; `@…` ↦ service; `!tagged ` ↦ tagged; exactly `$gontainer` ↦ the container;
any other string ↦ pattern; a non-primitive is not supported. The cases are exhaustive and the first
applicable one wins. -/
theorem resolve_classifies (v : Val) :
    argChain.find? (supports · v) =
      match v with
      | .str s =>
        if Re.acceptsPrefix Rx.prefixValue s.toList then some .value
        else if Re.acceptsPrefix (Re.cls [(64, 64)]) s.toList then some .service
        else if Re.acceptsPrefix Rx.prefixTagged s.toList then some .tagged
        else if s == specialGontainerID then some .gontainerValue
        else some .pattern
      | .other _ => none
      | _ => some .nonStringPrimitive := by
  cases v
  case str s =>
    -- `find?` branches on each `supports` by `match`, the statement by `if`; as `bif` that is a `match` too, and `rfl` unfolds
    -- `find?` along the chain
    simp only [← Bool.cond_eq_ite]
    rfl
  all_goals rfl

/-- an argument the wired chain resolves keeps its declared value, and an `@service` / `!tagged` argument has a non-empty list
of recorded services / tags (the runtime fetches the head of that list, `Runtime.resolveArg`) — the fact the run-time history
theorems (C05) assume of a compiled configuration (`Runtime.ArgsRecorded`) -/
theorem resolve_records_dependency (fns : List Token.FnDef) (st st' : Imports.St) (v : Val) (a : Output.Arg)
    (h : Compile.resolve Compile.argChain fns st v = (st', .ok a)) : a.raw = v ∧ Runtime.ArgWF a :=
  Runtime.resolve_records_dependency fns st st' v a h

/-- **arguments keep their order**: when `resolveArgs` reports no error, the compiled arguments carry
the declared values, one for one, in the declared order -/
theorem args_order_preserved (fns : List Token.FnDef) (st : Imports.St) (args : List Val)
    (h : (resolveArgs fns st args).2.2 = []) :
    (resolveArgs fns st args).2.1.map (·.raw) = args := by
  have := ((resolveArgs_emits fns st args).of_errs_nil h).map_out (·.raw) id
    (by rintro v _ _ ⟨a, rfl, hs⟩; exact congrArg (· :: []) hs.raw)
  rwa [List.map_id] at this

/-- **fields are compiled in sorted name order**, whether or not a value fails to resolve -/
theorem fields_sorted_by_name (fns : List Token.FnDef) (st : Imports.St) (fields : AMap Val) :
    (compileFields fns st fields).2.1.map (·.name) = (AMap.sorted fields).map (·.1) :=
  (compileFields_emits fns st fields).map_out _ _ (by rintro nv _ _ ⟨a, rfl, _⟩; rfl)

/-- **calls keep their order, names and wither flags**: one compiled call per declared call, in declaration order -/
theorem calls_order_preserved (fns : List Token.FnDef) (st : Imports.St) (calls : List Input.Call) :
    (compileCalls fns st calls).2.1.map (fun c => (c.method, c.immutable)) = calls.map (fun c => (c.method, c.immutable)) :=
  (compileCalls_emits fns st calls).map_out _ _ (by rintro c _ _ ⟨st, rfl, _⟩; rfl)

/-- … and, when no error is reported, every call receives exactly its declared arguments, in order -/
theorem call_args_preserved (fns : List Token.FnDef) (st : Imports.St) (calls : List Input.Call)
    (h : (compileCalls fns st calls).2.2.1 = []) :
    (compileCalls fns st calls).2.1.map (fun c => c.args.map (·.raw)) = calls.map (·.args) :=
  ((compileCalls_emits fns st calls).of_errs_nil h).map_out _ _
    (by rintro c _ _ ⟨st, rfl, he⟩; exact congrArg (· :: []) (args_order_preserved fns st c.args (he.mp rfl)))

/-- a live service is compiled from exactly these parts: sorted fields, then arguments, then calls (the order in
which import aliases are drawn), tags copied one for one -/
theorem service_parts (name : String) (svc : Input.Service) (dm : Option Bool) (fns : List Token.FnDef) (st : Imports.St)
    (h : svc.todo.getD false = false) :
    let rf := compileFields fns st svc.fields
    let ra := resolveArgs fns rf.1 svc.args
    let rc := compileCalls fns ra.1 svc.calls
    (compileService name svc dm fns st).1.fields = rf.2.1 ∧
    (compileService name svc dm fns st).1.args = ra.2.1 ∧
    (compileService name svc dm fns st).1.calls = rc.2.1 ∧
    (compileService name svc dm fns st).1.tags.map (fun t => (t.name, t.priority)) = svc.tags.map (fun t => (t.name, t.priority)) :=
  compileService_live name svc dm fns st h

/-- **creation, then fields, then calls, then tags and scope, then registration** — the statement sequence the
template emits for a live service, in this order and with the compiled texts in their compiled order -/
theorem emit_block_shape (s : Output.Service) (h : s.todo = false) :
    Emit.serviceBlock s =
      Emit.creation s ++
      s.fields.map (fun f => ⟨"s.SetField", [Emit.q f.name, f.value.code]⟩) ++
      s.calls.map (fun c => ⟨if c.immutable then "s.AppendWither" else "s.AppendCall", Emit.q c.method :: c.args.map (·.code)⟩) ++
      s.tags.map (fun t => ⟨"s.Tag", [Emit.q t.name, "int(" ++ toString t.priority ++ ")"]⟩) ++
      [⟨Emit.scopeSetter s.scope, []⟩] ++ [⟨"c.OverrideService", [Emit.q s.name, "s"]⟩] := by
  unfold Emit.serviceBlock
  rw [if_neg (by rw [h]; exact Bool.false_ne_true)]

/-- **every service is registered under its own name** — live or todo (a todo service is registered with the
`service todo` error constructor and nothing else) -/
theorem every_service_registered (o : Output.Output) (s : Output.Service) (hs : s ∈ o.services) :
    (⟨"c.OverrideService", [Emit.q s.name, "s"]⟩ : Emit.Stmt) ∈ Emit.constructorBody o ∧
    (s.todo = true → Emit.serviceBlock s = [Emit.todoCreation, ⟨"c.OverrideService", [Emit.q s.name, "s"]⟩]) :=
  ⟨List.mem_append_left _ (List.mem_append_right _ (List.mem_flatMap.mpr
      ⟨s, hs, List.mem_append_right _ (List.mem_singleton_self _)⟩)),
    fun ht => by unfold Emit.serviceBlock; rw [if_pos ht]; rfl⟩

/-- **a `value:` service is created by a closure that returns the expression** (so evaluated at every construction), and
no emitted statement registers a pre-built instance (`SetValue`) -/
theorem value_is_evaluated_per_construction (o : Output.Output) :
    (∀ st ∈ Emit.constructorBody o, st.fn ≠ "s.SetValue") ∧
    (∀ s : Output.Service, s.constructor = "" → s.value ≠ "" →
      Emit.creation s = [⟨"s.SetConstructor", ["func() " ++ (if s.type != "" then s.type else "interface{}") ++ " { return " ++ s.value ++ " }"]⟩]) := by
  constructor
  · intro st hst h
    exact setValue_not_callee (h ▸ constructorBody_callee o st hst)
  · intro s hc hv
    unfold Emit.creation
    rw [if_neg (by simp [hc]), if_pos (by simp [hv])]

/-- the scope setters of the model are the ones of the template's branches (regenerated) -/
theorem pin_scope_setters :
    Generated.tplScopeSetters.map (fun p => "s." ++ p.2) =
      [Emit.scopeSetter .default, Emit.scopeSetter .shared, Emit.scopeSetter .contextual, Emit.scopeSetter .nonShared] := by decide +kernel

theorem scope_mapping :
    scopeOut none = .default ∧ scopeOut (some .shared) = .shared ∧
    scopeOut (some .contextual) = .contextual ∧ scopeOut (some .nonShared) = .nonShared := ⟨rfl, rfl, rfl, rfl⟩

/-- a todo service compiles to a placeholder carrying nothing but its name and scope (what the template emits for it:
`every_service_registered`) -/
theorem todo_short_circuit (name : String) (svc : Input.Service) (dm : Option Bool)
    (fns : List Token.FnDef) (st : Imports.St) (h : svc.todo = some true) :
    compileService name svc dm fns st = ({ name := name, todo := true, scope := scopeOut svc.scope }, st, []) :=
  compileService_todo name svc dm fns st (by rw [h]; rfl)

end GM.C02
