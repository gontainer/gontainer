/-
C20 — the generated container is safe under concurrent use (partial).
Proved: (i) over the templates (regenerated): the generated helpers hold no state — the container
struct has exactly one (embedded) field, the file declares no package-level variable; (ii) over the
lock/cache protocol of `get` as a transition system with unboundedly many threads and arbitrary
interleavings: a shared service (a parameter; a contextual service within one bag) is successfully
constructed (evaluated) AT MOST ONCE, and once cached every later get is a cache hit; (iii) the transitions are
statements of `get` / `getParam` of the pinned library, in the order a thread passes them.
Not provable here: data-race freedom in the Go memory-model sense, the runtime library's actual
lock implementation, the scheduler — those are only searched for with `-race` runs.
-/
import GontainerModel.Lemmas.C20Aux
import GontainerModel.Model.RuntimeConc
import GontainerModel.Lemmas.ConcMulti
import GontainerModel.Generated.Template
import GontainerModel.Generated.Stub
import GontainerModel.Generated.Library
namespace GM.C20
open GM GM.RuntimeConc

/-- the invariant holds in every reachable state: any number of threads, any interleaving, any length -/
theorem reachable_inv (s : S) (h : Reachable s) : CInv s := by
  induction h with
  | init => exact inv_init
  | step _ st ih => exact inv_step _ _ ih st

/-- **at most one successful construction, ever** -/
theorem at_most_once (s : S) (h : Reachable s) : s.successes ≤ 1 :=
  successes_le_one (reachable_inv s h)

/-- once the instance is cached no thread constructs again: the only way out of `locked` is a hit -/
theorem cached_then_hit (s s' : S) (t : Nat) (hr : Reachable s) (hc : s.cache = true) (hl : s.crit = some (t, .locked))
    (st : Step s s') : s'.crit = none ∧ s'.hits = s.hits + 1 ∧ s'.successes = s.successes := by
  cases st with
  | hit t' h _ => exact ⟨rfl, rfl, rfl⟩
  | miss t' h hm => rw [hc] at hm; cases hm
  | acquire t' h => rw [hl] at h; cases h
  | construct t' ok h => rw [hl] at h; cases h
  | publish t' h => rw [hl] at h; cases h
  | fail t' h => rw [hl] at h; cases h

theorem cache_monotone (s s' : S) (st : Step s s') (hc : s.cache = true) : s'.cache = true := by
  cases st with
  | publish => rfl
  | acquire | hit | miss | construct | fail => exact hc

/-- **the generated helpers are stateless**: one embedded field, no package-level variable; the normal output declares five
`_helper` methods and one type, the container -/
theorem helpers_stateless :
    Generated.tplStructEmbedded = ["Container"] ∧ Generated.tplPackageVars = 0 ∧
    (Generated.tplFuncsNormal.filter (·.2.2)).length = 5 ∧ Generated.tplTypesNormal.length = 1 := ⟨rfl, rfl, rfl, rfl⟩

/-! The statements of `(*Container).get` and `(*Container).getParam` are regenerated (flattened, in source order) from the module
cache, in the version the repository's go.mod pins. The theorems below say that the statements the transitions of
`RuntimeConc.Step` stand for occur there, once each, in the order a thread passes them. -/

/-- **`get`: lock → deferred unlock → cache look-up (return on hit) → deferred store (only without error) → construction.**
`acquire` is `serviceLockers[id].Lock()`; `hit`/`miss` is the cache look-up right after it; the unlock is deferred BEFORE the
store is deferred, and Go runs deferred calls last-in-first-out, so the store (`publish`) happens inside the critical section and
the unlock after it; the store is guarded by `err == nil` (`fail` caches nothing); construction comes after all of these. Each of
the lock, unlock, store and construction statements occurs exactly once, after the `case` of the shared and contextual scopes. -/
theorem lib_get_protocol :
    let l := Generated.libGet
    let branch := l.idxOf "case scopeShared, scopeContextual:"
    let lock := l.idxOf "c.serviceLockers[id].Lock()"
    let unlock := l.idxOf "defer c.serviceLockers[id].Unlock()"
    let look := l.idxOf "if s, cached := cache.get(id); cached {"
    let store := l.idxOf "cache.set(id, result)"
    let create := l.idxOf "result, err = c.createNewService(svc, contextualBag)"
    branch < lock ∧ lock < unlock ∧ unlock < look ∧ look < store ∧ store < create ∧ create < l.length ∧
    l[look + 1]? = some "return s, nil" ∧
    l[store - 1]? = some "if err == nil {" ∧ l[store - 2]? = some "defer func() {" ∧
    l.count "c.serviceLockers[id].Lock()" = 1 ∧ l.count "defer c.serviceLockers[id].Unlock()" = 1 ∧
    l.count "cache.set(id, result)" = 1 ∧ l.count "result, err = c.createNewService(svc, contextualBag)" = 1 := by decide +kernel

/-- the cache the protocol works on is the container-wide one for shared services and the caller's bag for contextual ones
(`RuntimeConcMulti`: one cache per scope instance) -/
theorem lib_get_caches :
    let l := Generated.libGet
    l[l.idxOf "case scopeShared:" + 1]? = some "cache = c.cacheSharedServices" ∧
    l[l.idxOf "case scopeContextual:" + 1]? = some "cache = contextualBag" := by decide +kernel

/-- **the stages of a construction, in the order of the runtime model's `getBody`**: constructor, fields, calls, decorators —
each handing its result to the next, each failure ending the call -/
theorem lib_get_stages :
    let l := Generated.libGet
    let create := l.idxOf "result, err = c.createNewService(svc, contextualBag)"
    let fields := l.idxOf "result, err = c.setServiceFields(result, svc, contextualBag)"
    let calls := l.idxOf "result, err = c.executeServiceCalls(result, svc, contextualBag)"
    let deco := l.idxOf "result, err = c.decorateService(id, result, svc, contextualBag)"
    create < fields ∧ fields < calls ∧ calls < deco ∧ deco < l.length ∧
    l[create + 1]? = some "if err != nil {" ∧ l[fields + 1]? = some "if err != nil {" ∧
    l[calls + 1]? = some "if err != nil {" ∧ l[deco + 1]? = some "if err != nil {" ∧
    l[create + 2]? = some "return nil, err" ∧ l[fields + 2]? = some "return nil, err" ∧
    l[calls + 2]? = some "return nil, err" ∧ l[deco + 2]? = some "return nil, err" := by decide +kernel

/-- **`getParam`: the same protocol with one mutex per parameter** — lock, deferred unlock, cache look-up, evaluation, and the
store only on the path where the evaluation returned no error -/
theorem lib_getParam_protocol :
    let l := Generated.libGetParam
    let lock := l.idxOf "c.paramsLockers[id].Lock()"
    let unlock := l.idxOf "defer c.paramsLockers[id].Unlock()"
    let look := l.idxOf "if p, cached := c.cacheParams.get(id); cached {"
    let eval := l.idxOf "result, err = c.resolveDep(nil, param)"
    let store := l.idxOf "c.cacheParams.set(id, result)"
    lock < unlock ∧ unlock < look ∧ look < eval ∧ eval < store ∧ store < l.length ∧
    l[look + 1]? = some "return p, nil" ∧
    l[eval + 1]? = some "if err != nil {" ∧ l[eval + 2]? = some "return nil, err" ∧ l[eval + 3]? = some "}" ∧ store = eval + 4 ∧
    l.count "c.paramsLockers[id].Lock()" = 1 ∧ l.count "c.cacheParams.set(id, result)" = 1 := by decide +kernel

/-- the library version these statements were read from (regenerated: the one /repo/go.mod requires) -/
theorem lib_version_pinned : Generated.libVersion = "v3.0.0-20231102220126-cd3ac9fbe738" := rfl

/-- the invariant holds in every reachable state of the whole system: any number of threads, services and contexts, any
interleaving, any length -/
theorem multi_reachable_inv (s : RuntimeConcMulti.S) (h : RuntimeConcMulti.Reachable s) : RuntimeConcMulti.MInv s := by
  induction h with
  | init => exact RuntimeConcMulti.inv_init
  | step _ st ih => exact RuntimeConcMulti.inv_step _ _ ih st

/-- **each shared service is constructed at most once, and each contextual service at most once per context** — whatever the
other threads do to other services and contexts in between (cache 0 is the container-wide cache, cache c+1 the bag of context c) -/
theorem at_most_once_each (s : RuntimeConcMulti.S) (h : RuntimeConcMulti.Reachable s) (c i : Nat) : s.successes c i ≤ 1 :=
  (multi_reachable_inv s h).successes_le_one c i

/-- **a contextual service is never shared between distinct contexts** (nor between a context and the container-wide cache,
nor between two services): two different (cache, service) pairs never hold the same instance -/
theorem instances_never_shared (s : RuntimeConcMulti.S) (h : RuntimeConcMulti.Reachable s) (c c' i i' n : Nat)
    (h1 : s.cache c i = some n) (h2 : s.cache c' i' = some n) : c = c' ∧ i = i' :=
  (multi_reachable_inv s h).inj c i c' i' n (by simp [RuntimeConcMulti.owned, h1]) (by simp [RuntimeConcMulti.owned, h2])

-- non-vacuity: two threads racing for the same id; the second one hits the cache
example : Reachable { crit := none, cache := true, successes := 1, hits := 1 } := by
  have s0 : Reachable {} := .init
  have s1 := Reachable.step s0 (.acquire _ 1 rfl)
  have s2 := Reachable.step s1 (.miss _ 1 rfl rfl)
  have s3 := Reachable.step s2 (.construct _ 1 true rfl)
  have s4 := Reachable.step s3 (.publish _ 1 rfl)
  have s5 := Reachable.step s4 (.acquire _ 2 rfl)
  have s6 := Reachable.step s5 (.hit _ 2 rfl rfl)
  exact s6

-- non-vacuity of the multi-service system: two contexts each construct their own instance of service 7, with different serials
example : ∃ s : RuntimeConcMulti.S, RuntimeConcMulti.Reachable s ∧ s.cache 1 7 = some 1 ∧ s.cache 2 7 = some 2 := by
  have s0 : RuntimeConcMulti.Reachable {} := .init
  have s1 := RuntimeConcMulti.Reachable.step s0 (.acquire _ 100 1 7 rfl)
  have s2 := RuntimeConcMulti.Reachable.step s1 (.miss _ 100 1 7 (by simp [RuntimeConcMulti.upd]) rfl)
  have s3 := RuntimeConcMulti.Reachable.step s2 (.constructOk _ 100 1 7 (by simp [RuntimeConcMulti.upd]))
  have s4 := RuntimeConcMulti.Reachable.step s3 (.publish _ 100 1 7 1 (by simp [RuntimeConcMulti.upd]))
  have s5 := RuntimeConcMulti.Reachable.step s4 (.acquire _ 200 2 7 (by simp [RuntimeConcMulti.upd]))
  have s6 := RuntimeConcMulti.Reachable.step s5 (.miss _ 200 2 7 (by simp [RuntimeConcMulti.upd]) (by simp [RuntimeConcMulti.upd2]))
  have s7 := RuntimeConcMulti.Reachable.step s6 (.constructOk _ 200 2 7 (by simp [RuntimeConcMulti.upd]))
  have s8 := RuntimeConcMulti.Reachable.step s7 (.publish _ 200 2 7 2 (by simp [RuntimeConcMulti.upd]))
  exact ⟨_, s8, by simp [RuntimeConcMulti.upd2], by simp [RuntimeConcMulti.upd2]⟩

end GM.C20
