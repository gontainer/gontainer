/-
C10 — exit status, diagnostics and output-file contract of `build`, over the runner model (`Runner.run`) for every `World`
(the external effects are its parameters).
-/
import GontainerModel.Lemmas.Runner
import GontainerModel.Lemmas.ReadConfig
import GontainerModel.Generated.Wiring
namespace GM.C10
open GM GM.Runner

/-- **exit 0 iff the run wrote to the -o path** (the text written is the one the template builder returned: `Runner.codegen`) -/
theorem exit_zero_iff_written (w : World) (c : Output.Output → Errs) :
    (run w c).exit = 0 ↔ ∃ t, (run w c).file = .wrote w.outPath t := by
  rcases run_cases w c with ⟨h0, _, hf⟩ | ⟨h1, _, hf⟩
  · exact ⟨fun _ => hf, fun _ => h0⟩
  · simp [h1, hf]

/-- **any failure leaves the -o path exactly as it was** (given that a failing `os.WriteFile` did
not modify it — the `World.write` contract) -/
theorem failure_leaves_output (w : World) (c : Output.Output → Errs) :
    (run w c).exit ≠ 0 → (run w c).file = .untouched := by
  rcases run_cases w c with ⟨h0, _⟩ | ⟨_, _, hf⟩
  · exact fun h => absurd h0 h
  · exact fun _ => hf

theorem exit_is_0_or_1 (w : World) (c : Output.Output → Errs) : (run w c).exit = 0 ∨ (run w c).exit = 1 :=
  (run_cases w c).imp (·.1) (·.1)

/-- the numbered list has exactly as many entries as the error the command returns, and it is what
is printed after the report, preceded by the line `Errors:` -/
theorem error_list (w : World) (c : Output.Output → Errs) (hq : w.flags.quiet = false) (hx : (run w c).exit ≠ 0) :
    ∃ report, (run w c).printed = report ++ ["Errors:"] ++ numbered (run w c).errors ∧
      (numbered (run w c).errors).length = (run w c).errors.length := by
  unfold run finish at *
  rcases hc : core w c with ⟨ls, es, f⟩
  simp only [hc] at hx ⊢
  cases es with
  | nil => simp at hx
  | cons e es => exact ⟨ls, by simp [hq], by simp [numbered]⟩

/-- the END line of a failing verbose step reports exactly the number of collected errors -/
theorem end_line_count {σ : Type} (ind name : String) (st : σ) (body : String → StepOut σ)
    (h : (body (ind ++ "  ")).errs ≠ []) :
    (verbose ind name true st body).lines.getLast? =
      some (aligned ind (name ++ " END") xMark
        (if (body (ind ++ "  ")).errs.length > 1 then " (" ++ toString (body (ind ++ "  ")).errs.length ++ " errors)"
         else " (" ++ toString (body (ind ++ "  ")).errs.length ++ " error)")) ∧
    (verbose ind name true st body).errs = (body (ind ++ "  ")).errs := by
  unfold verbose
  simp only [List.isEmpty_eq_false_iff.mpr h, Bool.not_true, Bool.false_eq_true, ↓reduceIte, and_true]
  exact List.getLast?_concat

/-- a failure of the read-config step ends the run: exit 1, the -o path untouched (`"  "`: `verbose ""` runs its body under
`ind ++ "  "`) -/
theorem read_failure_exits (w : World) (c : Output.Output → Errs)
    (h : (readConfig w "  " Input.defaults).errs ≠ []) :
    (run w c).exit = 1 ∧ (run w c).file = .untouched := by
  have hc : (core w c).2 = ((readConfig w "  " Input.defaults).errs, .untouched) := by
    rw [core_snd, show accepted w c = .error _ from if_pos h]
  exact ⟨by rw [run_exit, hc, if_neg h], congrArg (·.2) hc⟩

/-- **unreadable or unparsable input**: a file matched by some pattern that cannot be read or decoded fails the step -/
theorem unreadable_input_fails (w : World) (ind : String) (i0 : Input.Input) (p g : String) (es : Errs)
    (hp : p ∈ w.patterns) (hg : g ∈ (patternFiles w p).1) (hr : w.read g = .error es) (hne : es ≠ []) :
    (readConfig w ind i0).errs ≠ [] := by
  intro h
  have := List.flatMap_eq_nil_iff.mp (List.append_eq_nil_iff.mp ((readConfig_ok w ind i0 h).noErrs p hp)).2 g hg
  simp [fileErrs, hr, Errs.pfx, hne] at this

/-- **a pattern that cannot be globbed** fails the step -/
theorem glob_error_fails (w : World) (ind : String) (i0 : Input.Input) (p : String)
    (hp : p ∈ w.patterns) (hg : (patternFiles w p).2 ≠ []) : (readConfig w ind i0).errs ≠ [] :=
  fun h => hg (List.append_eq_nil_iff.mp ((readConfig_ok w ind i0 h).noErrs p hp)).1

/-- **no input processed**: if no matched file is read successfully (no pattern, no match, only failures) the step fails -/
theorem nothing_processed_fails (w : World) (ind : String) (i0 : Input.Input)
    (h : ∀ p ∈ w.patterns, ∀ g ∈ (patternFiles w p).1, (w.read g).isOk = false) :
    (readConfig w ind i0).errs ≠ [] := by
  intro h'
  obtain ⟨g, hg, hok⟩ := List.any_eq_true.mp (readConfig_ok w ind i0 h').found
  obtain ⟨p, hp, hgp⟩ := List.mem_flatMap.mp hg
  rw [h p hp g hgp] at hok
  cases hok

/-- **a file matched by two patterns**: a file that is read successfully under two (occurrences of) patterns fails the step -/
theorem duplicate_match_fails (w : World) (ind : String) (i0 : Input.Input) (f : String)
    (h : 2 ≤ (w.patterns.filter fun p => decide (f ∈ (patternFiles w p).1) && (w.read f).isOk).length) :
    (readConfig w ind i0).errs ≠ [] := by
  intro h'
  cases hok : (w.read f).isOk with
  | false =>
    rw [List.filter_eq_nil_iff.mpr fun _ _ => by simp [hok]] at h
    exact absurd h (by decide)
  | true =>
    simp only [hok, Bool.and_true] at h
    -- every pattern that matches `f` reads it once more, and a successful step has read no file twice
    have : 2 ≤ 1 := calc
      2 ≤ (w.patterns.filter fun p => decide (f ∈ (patternFiles w p).1)).length := h
      _ ≤ (filesInOrder w).count f := length_filter_mem_le_count_flatMap f (fun p => (patternFiles w p).1) w.patterns
      _ ≤ 1 := (readConfig_ok w ind i0 h').once f hok
    exact absurd this (by decide)

/-- **--quiet**: nothing is printed; exit status, error and file effect are unchanged -/
theorem quiet_same_effects (w : World) (c : Output.Output → Errs) (q : Bool) :
    run { w with flags := { w.flags with quiet := q } } c =
      { run { w with flags := { w.flags with quiet := false } } c with
        printed := if q then [] else (run { w with flags := { w.flags with quiet := false } } c).printed } := by
  -- `core` does not read `flags.quiet`, `finish` reads nothing else: both sides unfold to the same record
  cases q <;> rfl

/-- the wired step order: read, compile, validate, and code generation LAST (regenerated wiring) -/
theorem steps_pinned :
    (Generated.wiring.lookup "runner").map (·.2.1) =
      some ["@stepDefaultInput", "@stepReadConfig", "@stepCompile", "@stepValidateOutput", "@stepCodeGenerator"] ∧
    Generated.argsAre ((Generated.wiring.lookup "stepCodeGenerator").map (·.2.1)) ["@printer", "@templateBuilder", "%outputFile%"] = true ∧
    (Generated.wiring.lookup "compiler").map (·.2.1) =
      some ["@stepValidateInput", "@stepCompileMeta", "@stepCompileParams", "@stepCompileServices", "@stepCompileDecorators"] ∧
    Generated.wiringDecorators = [["step-runner-verbose", "runner.DecorateStepVerboseSwitchable", "@printer", "@printer"]] := by
  decide +kernel

end GM.C10
