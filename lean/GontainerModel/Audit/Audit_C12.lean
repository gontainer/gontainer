import GontainerModel.Props.C12
#print axioms GM.C12.panic_sites_discharged
#print axioms GM.C12.toExpr_guard
#print axioms GM.C12.goCode_guard
#print axioms GM.C12.verbose_services_are_steps
#print axioms GM.C12.end_line_fits
#print axioms GM.C12.repeat_count_nonneg
#print axioms GM.C12.step_names_pinned
#print axioms GM.C12.loops_bounded
#print axioms GM.C12.self_calls_reviewed
#print axioms GM.C12.run_total
