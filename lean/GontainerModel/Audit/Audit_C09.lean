import GontainerModel.Props.C09
#print axioms GM.C09.rule_services
#print axioms GM.C09.merge_assoc
#print axioms GM.C09.merge_empty_left
#print axioms GM.C09.merge_empty_right
#print axioms GM.C09.equiv_sorted_services
#print axioms GM.C09.rule_scalar
#print axioms GM.C09.rule_map
#print axioms GM.C09.rule_args
#print axioms GM.C09.rule_lists
#print axioms GM.C09.split_map
#print axioms GM.C09.split_service
#print axioms GM.C09.split_decorators
#print axioms GM.C09.readAll_append
#print axioms GM.C09.files_read_in_documented_order
#print axioms GM.C09.read_order_spelled_out
#print axioms GM.C09.byte_order_examples
