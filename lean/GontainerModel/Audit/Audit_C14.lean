import GontainerModel.Props.C14
#print axioms GM.C14.TableOk.match_unique
#print axioms GM.C14.resolve_order_independent
#print axioms GM.C14.resolve_hit
#print axioms GM.C14.resolve_miss
#print axioms GM.C14.alias_fresh
#print axioms GM.C14.alias_memo
#print axioms GM.C14.sanitize_forms
#print axioms GM.C14.pin_import_regex
#print axioms GM.C14.local_names_distinct
#print axioms GM.C14.import_block_distinct
#print axioms GM.C14.same_name_iff_same_package
