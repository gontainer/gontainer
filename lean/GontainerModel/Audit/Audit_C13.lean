import GontainerModel.Props.C13
#print axioms GM.C13.getter_error_iff
#print axioms GM.C13.must_getter_iff
#print axioms GM.C13.must_getter_table
#print axioms GM.C13.no_getter_no_methods
#print axioms GM.C13.method_set
#print axioms GM.C13.meta_defaults
#print axioms GM.C13.default_type
#print axioms GM.C13.reserved_is_container_api
#print axioms GM.C13.template_method_forms
#print axioms GM.C13.reserved_table_closed
#print axioms GM.C13.methods_never_collide
