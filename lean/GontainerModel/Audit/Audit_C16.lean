import GontainerModel.Props.C16
#print axioms GM.C16.flags_narrow
#print axioms GM.C16.accept_iff_rest_ignored
#print axioms GM.C16.flags_only_in_validation
#print axioms GM.C16.accepted_ignoring_more
#print axioms GM.C16.accepted_output_flag_independent
#print axioms GM.C16.flag_wiring
