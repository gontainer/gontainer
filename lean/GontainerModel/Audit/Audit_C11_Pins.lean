import GontainerModel.Props.C11
import GontainerModel.Props.Pins
#print axioms GM.C11.matcher_exact
#print axioms GM.C11.language_of
#print axioms GM.C11.goToken_language
#print axioms GM.C11.yamlToken_language
#print axioms GM.C11.name_positions
#print axioms GM.C11.import_language
#print axioms GM.C11.goFunc_language
#print axioms GM.C11.serviceType_language
#print axioms GM.C11.serviceValue_language
#print axioms GM.C11.decoratorTag_language
#print axioms GM.C11.argument_languages
#print axioms GM.C11.validate_sections
#print axioms GM.C11.params_exact
#print axioms GM.C11.params_report_all
#print axioms GM.C11.getter_rules
#print axioms GM.C11.creation_rules
#print axioms GM.C11.todo_exempt
#print axioms GM.C11.getters_unique
#print axioms GM.C11.tag_shapes
#print axioms GM.C11.call_shapes
#print axioms GM.C11.scope_shapes
#print axioms GM.C11.scope_keywords
#print axioms GM.C11.pin_scope_keywords
#print axioms GM.C11.shapes_roundtrip
#print axioms GM.Pins.pin_token_regexTokenRef
#print axioms GM.Pins.pin_token_regexSimpleFn
#print axioms GM.Pins.pin_input_regexDecoratorsTag
#print axioms GM.Pins.pin_input_regexDecoratorMethod
#print axioms GM.Pins.pin_input_regexpMetaPkg
#print axioms GM.Pins.pin_input_regexpMetaContainerType
#print axioms GM.Pins.pin_input_regexpMetaContainerConstructor
#print axioms GM.Pins.pin_input_regexMetaImport
#print axioms GM.Pins.pin_input_regexMetaImportAlias
#print axioms GM.Pins.pin_input_regexMetaFn
#print axioms GM.Pins.pin_input_regexMetaGoFn
#print axioms GM.Pins.pin_input_regexParamName
#print axioms GM.Pins.pin_input_regexServiceName
#print axioms GM.Pins.pin_input_regexServiceGetter
#print axioms GM.Pins.pin_input_regexServiceType
#print axioms GM.Pins.pin_input_regexServiceValue
#print axioms GM.Pins.pin_input_regexServiceConstructor
#print axioms GM.Pins.pin_input_regexServiceCallName
#print axioms GM.Pins.pin_input_regexServiceFieldName
#print axioms GM.Pins.pin_input_regexServiceTag
#print axioms GM.Pins.pin_compiler_regexDecoratorMethod
#print axioms GM.Pins.pin_compiler_regexMetaGoFn
#print axioms GM.Pins.pin_compiler_regexServiceType
#print axioms GM.Pins.pin_compiler_regexServiceConstructor
#print axioms GM.Pins.pin_resolver_servicePrefixRegex
#print axioms GM.Pins.pin_resolver_serviceRegex
#print axioms GM.Pins.pin_resolver_taggedPrefixRegex
#print axioms GM.Pins.pin_resolver_taggedRegex
#print axioms GM.Pins.pin_resolver_valuePrefixRegex
#print axioms GM.Pins.pin_resolver_valueRegex
#print axioms GM.Pins.pin_syntax_regexServiceValue
#print axioms GM.Pins.pin_imports_regexNoAlphaNum
#print axioms GM.Pins.pin_kinds
