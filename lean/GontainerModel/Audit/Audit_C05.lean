import GontainerModel.Props.C05
#print axioms GM.C05.scope_errors_graph
#print axioms GM.C05.scope_errors_exact
#print axioms GM.C05.scope_accept_iff
#print axioms GM.C05.resolved_scope
#print axioms GM.C05.scope_keyword_mapping
#print axioms GM.C05.shared_once
#print axioms GM.C05.contextual_once_per_bag
#print axioms GM.C05.default_scope_documented
#print axioms GM.C05.shared_first_get_caches
#print axioms GM.C05.shared_once_any_history
#print axioms GM.C05.shared_once_per_container
#print axioms GM.C05.contextual_once_per_context
#print axioms GM.C05.contexts_are_separate
#print axioms GM.C05.plain_get_has_fresh_bag
#print axioms GM.C05.non_shared_always_fresh
#print axioms GM.C05.non_shared_never_same
#print axioms GM.C05.shared_once_for_acyclic
#print axioms GM.C05.contextual_once_for_acyclic
#print axioms GM.C05.shared_once_for_compiled
#print axioms GM.C05.contextual_once_for_compiled
#print axioms GM.C05.demoHist_kind
