/-
Services over whole histories (runtime model). `get` / `getTaggedBy` never touch overrides or the bags of attached
contexts; the three caches (shared services, the bag of the call tree, parameters) are only extended, each by entries
for keys that had none when the call STARTED — so an entry is never replaced, whatever the dependency relation looks
like; the log grows by constructions and evaluations of what was not cached; the serial counter never goes back.
-/
import GontainerModel.Lemmas.ParamOnce
namespace GM.Runtime

/-- why a log entry may appear: a provider of a parameter that was not cached, or a construction of a service that was
not in the shared cache if that is where its scope puts it. Of a contextual service the `ctor:` clause says nothing: `HInv`
relates states, a bag belongs to a call, and what is proved of contextual services is stated on the bags (`SInv.bg`), not
read off the log. -/
def LogOK (p : Prog) (st : St) (e : String) : Prop :=
  (∃ n, e = "param:" ++ n ∧ st.pcache.lookup n = none) ∨
  (∃ n, e = "ctor:" ++ n ∧ (effScope p st n = .shared → st.shared.lookup n = none))

theorem ctor_ne_param (a b : String) : "ctor:" ++ a ≠ "param:" ++ b := fun h => by
  have : 'c' = 'p' := by simpa using congrArg (·.toList.head?) h
  cases this

theorem LogOK.ctor {p : Prog} {st : St} {id : String} (h : LogOK p st ("ctor:" ++ id)) :
    effScope p st id = .shared → st.shared.lookup id = none := by
  obtain ⟨n, hn, _⟩ | ⟨n, hn, hmiss⟩ := h
  · exact absurd hn (ctor_ne_param id n)
  · rwa [(String.append_right_inj "ctor:").mp hn]

/-- what a call, and so any history of calls, guarantees about the state it ends in relative to the state it started from -/
structure HInv (p : Prog) (st st' : St) : Prop where
  ovP : st'.ovParams = st.ovParams
  ovS : st'.ovServices = st.ovServices
  sh : Ext (effScope p st · = .shared) st.shared st'.shared
  pc : Ext (fun _ => True) st.pcache st'.pcache
  lg : LogExt (LogOK p st) st.evalLog st'.evalLog
  nx : st.next ≤ st'.next

/-- `HInv` for a `get` / `getTaggedBy`, with the bag it threads: the bags of attached contexts stay, its own bag is extended
by services whose scope is contextual -/
structure SInv (p : Prog) (st : St) (bag : Bag) (st' : St) (bag' : Bag) : Prop extends HInv p st st' where
  ctx : st'.ctxBags = st.ctxBags
  bg : Ext (effScope p st · = .contextual) bag bag'

theorem effScope_congr (p : Prog) (st st' : St) (h : st'.ovServices = st.ovServices) (n : String) :
    effScope p st' n = effScope p st n := by
  unfold effScope
  rw [h]

theorem HInv.refl (p : Prog) (st : St) : HInv p st st :=
  ⟨rfl, rfl, Ext.refl _ _, Ext.refl _ _, LogExt.refl _ _, Nat.le_refl _⟩

theorem HInv.trans {p : Prog} {a b c : St} (h1 : HInv p a b) (h2 : HInv p b c) : HInv p a c where
  ovP := h2.ovP.trans h1.ovP
  ovS := h2.ovS.trans h1.ovS
  sh := h1.sh.trans (h2.sh.mono fun n h => (effScope_congr p a b h1.ovS n).symm.trans h)
  pc := h1.pc.trans h2.pc
  nx := Nat.le_trans h1.nx h2.nx
  -- what was not cached in `b` was not cached in `a`
  lg := h1.lg.trans <| h2.lg.mono fun _ he => he.imp
    (fun ⟨n, e, hn⟩ => ⟨n, e, h1.pc.absent hn⟩)
    (fun ⟨n, e, hs⟩ => ⟨n, e, fun hsc => h1.sh.absent (hs ((effScope_congr p a b h1.ovS n).trans hsc))⟩)

theorem HInv.ofPInv {p : Prog} {st st' : St} (h : PInv st st') : HInv p st st' where
  ovP := h.ovParams
  ovS := h.ovServices
  sh := h.shared ▸ Ext.refl _ _
  pc := h.pc
  lg := h.lg.mono fun _ => Or.inl
  nx := Nat.le_of_eq h.next.symm

theorem SInv.refl (p : Prog) (st : St) (bag : Bag) : SInv p st bag st bag := ⟨HInv.refl p st, rfl, Ext.refl _ _⟩

theorem SInv.trans {p : Prog} {a b c : St} {ba bb bc : Bag} (h1 : SInv p a ba b bb) (h2 : SInv p b bb c bc) :
    SInv p a ba c bc :=
  ⟨h1.toHInv.trans h2.toHInv, h2.ctx.trans h1.ctx,
    h1.bg.trans (h2.bg.mono fun n h => (effScope_congr p a b h1.ovS n).symm.trans h)⟩

theorem SInv.ofPInv {p : Prog} {st st' : St} (bag : Bag) (h : PInv st st') : SInv p st bag st' bag :=
  ⟨HInv.ofPInv h, h.ctxBags, Ext.refl _ _⟩

theorem SInv.heap {p : Prog} {st s : St} {bag b : Bag} (hp : List (Nat × Obj)) {k : Nat} (hk : s.next ≤ k)
    (h : SInv p st bag s b) : SInv p st bag { s with heap := hp, next := k } b :=
  ⟨⟨h.ovP, h.ovS, h.sh, h.pc, h.lg, Nat.le_trans h.nx hk⟩, h.ctx, h.bg⟩

theorem SInv.finish {p : Prog} {st s : St} {bag b : Bag} (h : SInv p st bag s b) (id : String) (obj : RV)
    (hs : effScope p st id = .shared → st.shared.lookup id = none)
    (hc : effScope p st id = .contextual → bag.lookup id = none) :
    SInv p st bag (finishGet (effScope p st id) id obj s b).1 (finishGet (effScope p st id) id obj s b).2.1 := by
  have hlog := h.lg.trans (LogExt.single s.evalLog (Or.inr ⟨id, rfl, hs⟩))
  unfold finishGet
  cases hsc : effScope p st id with
  | shared => exact ⟨⟨h.ovP, h.ovS, h.sh.cons obj (hs hsc) hsc, h.pc, hlog, h.nx⟩, h.ctx, h.bg⟩
  | contextual => exact ⟨⟨h.ovP, h.ovS, h.sh, h.pc, hlog, h.nx⟩, h.ctx, h.bg.cons obj (hc hsc) hsc⟩
  | default => exact ⟨⟨h.ovP, h.ovS, h.sh, h.pc, hlog, h.nx⟩, h.ctx, h.bg⟩
  | nonShared => exact ⟨⟨h.ovP, h.ovS, h.sh, h.pc, hlog, h.nx⟩, h.ctx, h.bg⟩

theorem finishGet_val (sc : Output.Scope) (id : String) (obj : RV) (st : St) (bag : Bag) :
    (finishGet sc id obj st bag).2.2 = .ok obj := by
  cases sc <;> rfl

/-- the callback of `getBody` and its steps that resolves one argument: `resolveArg` at the fuel below -/
abbrev RA := St → Bag → Output.Arg → St × Bag × Except String RV
/-- the callback that resolves an argument list: `resolveArgs` at the fuel below -/
abbrev RAS := St → Bag → List Output.Arg → St × Bag × Except String (List RV)

/-- Case analysis on the course of a construction: `getBody` answers from the first stage that fails, with the state and the bag
that stage left, or from the bookkeeping. Each case is given the results of the stages before it; the wording of an error is
left open (`∀ msg`), since nothing proved of `getBody` reads it. -/
theorem getBody_cases {motive : St × Bag × Except String RV → Prop} (ra : RA) (ras : RAS) (p : Prog) (s : Output.Service)
    (sc : Output.Scope) (id : String) (st : St) (bag : Bag)
    (todo : s.todo = true → ∀ msg, motive (st, bag, .error msg))
    (create : ∀ {s1 b1 e}, createObj ras p s st bag = (s1, b1, .error e) → ∀ msg, motive (s1, b1, .error msg))
    (fields : ∀ {s1 b1 obj s2 b2 ferrs}, createObj ras p s st bag = (s1, b1, .ok obj) →
      s.fields.foldl (fieldStep ra obj) (s1, b1, []) = (s2, b2, ferrs) → ferrs ≠ [] → ∀ msg, motive (s2, b2, .error msg))
    (calls : ∀ {s1 b1 obj s2 b2 s3 b3 obj3 cerrs}, createObj ras p s st bag = (s1, b1, .ok obj) →
      s.fields.foldl (fieldStep ra obj) (s1, b1, []) = (s2, b2, []) →
      s.calls.foldl (callStep ras) (s2, b2, obj, []) = (s3, b3, obj3, cerrs) → cerrs ≠ [] → ∀ msg, motive (s3, b3, .error msg))
    (decorators : ∀ {s1 b1 obj s2 b2 s3 b3 obj3 s4 b4 obj4 e i}, createObj ras p s st bag = (s1, b1, .ok obj) →
      s.fields.foldl (fieldStep ra obj) (s1, b1, []) = (s2, b2, []) →
      s.calls.foldl (callStep ras) (s2, b2, obj, []) = (s3, b3, obj3, []) →
      p.out.decorators.foldl (decoStep ras p s id) (s3, b3, obj3, none, 0) = (s4, b4, obj4, some e, i) →
      ∀ msg, motive (s4, b4, .error msg))
    (finish : ∀ {s1 b1 obj s2 b2 s3 b3 obj3 s4 b4 obj4 i}, createObj ras p s st bag = (s1, b1, .ok obj) →
      s.fields.foldl (fieldStep ra obj) (s1, b1, []) = (s2, b2, []) →
      s.calls.foldl (callStep ras) (s2, b2, obj, []) = (s3, b3, obj3, []) →
      p.out.decorators.foldl (decoStep ras p s id) (s3, b3, obj3, none, 0) = (s4, b4, obj4, none, i) →
      motive (finishGet sc id obj4 s4 b4)) :
    motive (getBody ra ras p s sc id st bag) := by
  unfold getBody
  by_cases htodo : s.todo = true
  · rw [if_pos htodo]; exact todo htodo _
  rw [if_neg htodo]
  generalize h1 : createObj ras p s st bag = r1
  obtain ⟨s1, b1, e | obj⟩ := r1
  · exact create h1 _
  dsimp only
  generalize h2 : s.fields.foldl (fieldStep ra obj) (s1, b1, []) = r2
  obtain ⟨s2, b2, ferrs⟩ := r2
  cases ferrs with
  | cons e es => exact fields h1 h2 (List.cons_ne_nil e es) _
  | nil =>
    dsimp only
    generalize h3 : s.calls.foldl (callStep ras) (s2, b2, obj, []) = r3
    obtain ⟨s3, b3, obj3, cerrs⟩ := r3
    cases cerrs with
    | cons e es => exact calls h1 h2 h3 (List.cons_ne_nil e es) _
    | nil =>
      dsimp only
      generalize h4 : p.out.decorators.foldl (decoStep ras p s id) (s3, b3, obj3, none, 0) = r4
      obtain ⟨s4, b4, obj4, derr, i⟩ := r4
      cases derr with
      | some e => exact decorators h1 h2 h3 h4 _
      | none => exact finish h1 h2 h3 h4

/-! The steps of a construction that work on the object in hand keep any `K s b cur` (state, bag, that object) that is kept by
changes of the heap which do not lower the serial counter and by the callbacks, and that passes from the object in hand to
a newly allocated one replacing it. -/
section steps
variable {K : St → Bag → RV → Prop}
  (hheap : ∀ {s b h k cur}, s.next ≤ k → K s b cur → K { s with heap := h, next := k } b cur)
  (hnew : ∀ {s b o cur}, K s b cur → K (alloc s o).1 b (.ref true (alloc s o).2))
  {ra : RA} (hra : ∀ a s b cur, K s b cur → K (ra s b a).1 (ra s b a).2.1 cur)
  {ras : RAS} (hras : ∀ as s b cur, K s b cur → K (ras s b as).1 (ras s b as).2.1 cur)

include hheap hra in
theorem fieldStep_inv (obj : RV) (acc : St × Bag × List String) (fl : Output.Field) (h0 : K acc.1 acc.2.1 obj) :
    K (fieldStep ra obj acc fl).1 (fieldStep ra obj acc fl).2.1 obj := by
  obtain ⟨s1, b1, errs⟩ := acc
  have := hra fl.value s1 b1 obj h0
  dsimp only [fieldStep]
  generalize ra s1 b1 fl.value = r at this ⊢
  obtain ⟨s2, b2, e | v⟩ := r
  · exact this
  · cases obj with
    | ref _ n => exact hheap (Nat.le_refl _) this
    | _ => exact this

include hheap hnew hras in
theorem callStep_inv (acc : St × Bag × RV × List String) (c : Output.Call) (h0 : K acc.1 acc.2.1 acc.2.2.1) :
    K (callStep ras acc c).1 (callStep ras acc c).2.1 (callStep ras acc c).2.2.1 := by
  obtain ⟨s1, b1, cur, errs⟩ := acc
  have := hras c.args s1 b1 cur h0
  dsimp only [callStep]
  generalize ras s1 b1 c.args = r at this ⊢
  obtain ⟨s2, b2, e | vals⟩ := r
  · exact this
  · cases cur with
    | ref _ n =>
      cases c.immutable with
      | false => exact hheap (Nat.le_refl _) this
      | true => exact hnew this
    | _ => exact this

include hnew hras in
theorem decoStep_inv (p : Prog) (s : Output.Service) (id : String) (acc : St × Bag × RV × Option String × Nat)
    (d : Output.Decorator) (h0 : K acc.1 acc.2.1 acc.2.2.1) :
    K (decoStep ras p s id acc d).1 (decoStep ras p s id acc d).2.1 (decoStep ras p s id acc d).2.2.1 := by
  obtain ⟨s1, b1, cur, err, i⟩ := acc
  have := hras d.args s1 b1 cur h0
  dsimp only [decoStep]
  generalize ras s1 b1 d.args = r at this ⊢
  cases err with
  | some _ => exact h0
  | none =>
    cases s.tags.any (·.name == d.tag) with
    | false => exact h0
    | true =>
      obtain ⟨s2, b2, e | vals⟩ := r
      · exact this
      · exact hnew this

include hheap hnew hra hras in
/-- a successful construction went through every stage: what creation establishes of the object holds of the one the final
bookkeeping receives -/
theorem getBody_ok {p : Prog} {s : Output.Service} {sc : Output.Scope} {id : String} {st st' : St} {bag bag' : Bag} {v : RV}
    (h : getBody ra ras p s sc id st bag = (st', bag', .ok v))
    (hcr : ∀ s1 b1 obj, createObj ras p s st bag = (s1, b1, .ok obj) → K s1 b1 obj) :
    ∃ s4 b4, K s4 b4 v ∧ finishGet sc id v s4 b4 = (st', bag', .ok v) := by
  revert h
  have herr : ∀ {s' b'} {msg : String} {C : Prop}, (s', b', Except.error msg) = (st', bag', Except.ok v) → C := fun h => nomatch h
  refine getBody_cases (motive := fun r => r = (st', bag', .ok v) → ∃ s4 b4, K s4 b4 v ∧ finishGet sc id v s4 b4 = (st', bag', .ok v))
    ra ras p s sc id st bag (todo := fun _ _ => herr) (create := fun _ _ => herr) (fields := fun _ _ _ _ => herr)
    (calls := fun _ _ _ _ _ => herr) (decorators := fun _ _ _ _ _ => herr) (finish := ?_)
  intro s1 b1 obj s2 b2 s3 b3 obj3 s4 b4 obj4 i h1 h2 h3 h4 h
  have k2 : K s2 b2 obj := foldl_inv_eq (I := fun acc => K acc.1 acc.2.1 obj) h2 (hcr _ _ _ h1) (fieldStep_inv @hheap hra obj)
  have k3 : K s3 b3 obj3 := foldl_inv_eq (I := fun acc => K acc.1 acc.2.1 acc.2.2.1) h3 k2 (callStep_inv @hheap @hnew hras)
  have k4 : K s4 b4 obj4 := foldl_inv_eq (I := fun acc => K acc.1 acc.2.1 acc.2.2.1) h4 k3 (decoStep_inv @hnew hras p s id)
  have hv : obj4 = v := by
    have := congrArg (·.2.2) h
    rwa [finishGet_val, Except.ok.injEq] at this
  exact ⟨s4, b4, hv ▸ k4, hv ▸ h⟩

end steps

theorem getBody_ok_finish {ra : RA} {ras : RAS} {p : Prog} {s : Output.Service} {sc : Output.Scope} {id : String} {st st' : St}
    {bag bag' : Bag} {v : RV} (h : getBody ra ras p s sc id st bag = (st', bag', .ok v)) :
    ∃ s4 b4, finishGet sc id v s4 b4 = (st', bag', .ok v) :=
  have ⟨s4, b4, _, hfin⟩ := getBody_ok (K := fun _ _ _ => True) (hheap := fun _ _ => trivial) (hnew := fun _ => trivial)
    (hra := fun _ _ _ _ _ => trivial) (hras := fun _ _ _ _ _ => trivial) h (hcr := fun _ _ _ _ => trivial)
  ⟨s4, b4, hfin⟩

/-! A predicate `I s b` that does not mention the object in hand needs the conditions on heap changes and on the callbacks only (an
allocation is a heap change), and then every stage of `getBody` keeps it, creation included; for the steps on the object in hand
that is the above at the `K` that ignores `cur`. -/
section stages
variable {I : St → Bag → Prop} (hheap : ∀ {s b h k}, s.next ≤ k → I s b → I { s with heap := h, next := k } b)
  {ra : RA} (hra : ∀ a s b, I s b → I (ra s b a).1 (ra s b a).2.1)
  {ras : RAS} (hras : ∀ as s b, I s b → I (ras s b as).1 (ras s b as).2.1)

include hra in
theorem argsStep_inv (acc : St × Bag × List RV × List String) (a : Output.Arg) (h0 : I acc.1 acc.2.1) :
    I (argsStep ra acc a).1 (argsStep ra acc a).2.1 := by
  obtain ⟨s1, b1, vals, errs⟩ := acc
  have := hra a s1 b1 h0
  dsimp only [argsStep]
  generalize ra s1 b1 a = r at this ⊢
  obtain ⟨s2, b2, e | v⟩ := r <;> exact this

theorem taggedStep_inv {g : St → Bag → String → St × Bag × Except String RV} (hg : ∀ n s b, I s b → I (g s b n).1 (g s b n).2.1)
    (acc : St × Bag × List RV × Option String) (c : String × Int) (h0 : I acc.1 acc.2.1) :
    I (taggedStep g acc c).1 (taggedStep g acc c).2.1 := by
  obtain ⟨s1, b1, vals, err⟩ := acc
  have := hg c.1 s1 b1 h0
  dsimp only [taggedStep]
  generalize g s1 b1 c.1 = r at this ⊢
  cases err with
  | some _ => exact h0
  | none => obtain ⟨s2, b2, e | v⟩ := r <;> exact this

include hheap hras in
theorem createObj_inv (p : Prog) (s : Output.Service) (st : St) (bag : Bag) (h0 : I st bag) :
    I (createObj ras p s st bag).1 (createObj ras p s st bag).2.1 := by
  have := hras s.args st bag h0
  have hal : ∀ {s b} o, I s b → I (alloc s o).1 b := fun _ => hheap (Nat.le_succ _)
  unfold createObj
  generalize ras st bag s.args = r at this ⊢
  cases s.constructor != "" with
  | false =>
    cases s.value != "" with
    | false => exact h0
    | true =>
      cases s.value.endsWith "{}" with
      | false => exact h0
      | true => exact hal _ h0
  | true =>
    obtain ⟨s2, b2, e | vals⟩ := r <;> simp only [↓reduceIte] at this ⊢
    · exact this
    · cases isFixture (symbol p s.constructor) "NewFail" with
      | false => exact hal _ this
      | true => exact this

include hheap hra hras in
theorem getBody_inv {p : Prog} {s : Output.Service} {sc : Output.Scope} {id : String} {st : St} {bag : Bag}
    (hfin : ∀ obj s' b, I s' b → I (finishGet sc id obj s' b).1 (finishGet sc id obj s' b).2.1) (h0 : I st bag) :
    I (getBody ra ras p s sc id st bag).1 (getBody ra ras p s sc id st bag).2.1 := by
  have hh : ∀ {s b h k} {_ : RV}, s.next ≤ k → I s b → I { s with heap := h, next := k } b := hheap
  have hn : ∀ {s b o} {_ : RV}, I s b → I (alloc s o).1 b := hheap (Nat.le_succ _)
  have ha : ∀ a s b (_ : RV), I s b → I (ra s b a).1 (ra s b a).2.1 := fun a s b _ => hra a s b
  have has : ∀ as s b (_ : RV), I s b → I (ras s b as).1 (ras s b as).2.1 := fun as s b _ => hras as s b
  have k1 : ∀ {s1 b1 c}, createObj ras p s st bag = (s1, b1, c) → I s1 b1 := fun h1 => by
    have := createObj_inv @hheap hras p s st bag h0
    rwa [h1] at this
  have k2 : ∀ {s1 b1 obj s2 b2 ferrs}, I s1 b1 → s.fields.foldl (fieldStep ra obj) (s1, b1, []) = (s2, b2, ferrs) → I s2 b2 :=
    fun k h2 => foldl_inv_eq (I := fun acc => I acc.1 acc.2.1) h2 k (fieldStep_inv @hh ha _)
  have k3 : ∀ {s2 b2 obj s3 b3 obj3 cerrs}, I s2 b2 → s.calls.foldl (callStep ras) (s2, b2, obj, []) = (s3, b3, obj3, cerrs) → I s3 b3 :=
    fun k h3 => foldl_inv_eq (I := fun acc => I acc.1 acc.2.1) h3 k (callStep_inv @hh @hn has)
  have k4 : ∀ {s3 b3 obj3 s4 b4 obj4 derr i}, I s3 b3 →
      p.out.decorators.foldl (decoStep ras p s id) (s3, b3, obj3, none, 0) = (s4, b4, obj4, derr, i) → I s4 b4 :=
    fun k h4 => foldl_inv_eq (I := fun acc => I acc.1 acc.2.1) h4 k (decoStep_inv @hn has p s id)
  exact getBody_cases (motive := fun r => I r.1 r.2.1) ra ras p s sc id st bag (todo := fun _ _ => h0)
    (create := fun h1 _ => k1 h1) (fields := fun h1 h2 _ _ => k2 (k1 h1) h2) (calls := fun h1 h2 h3 _ _ => k3 (k2 (k1 h1) h2) h3)
    (decorators := fun h1 h2 h3 h4 _ => k4 (k3 (k2 (k1 h1) h2) h3) h4)
    (finish := fun h1 h2 h3 h4 => hfin _ _ _ (k4 (k3 (k2 (k1 h1) h2) h3) h4))

end stages

theorem get_declared {p : Prog} {st : St} {id : String} {s : Output.Service} (f : Nat) (bag : Bag)
    (hov : st.ovServices.lookup id = none) (hs : svcByName p id = some s) :
    get (f + 1) p st bag id =
      match (match effScope p st id with
        | .shared => st.shared.lookup id
        | .contextual => bag.lookup id
        | _ => none) with
      | some v => (st, bag, .ok v)
      | none => getBody (fun st bag a => resolveArg f p st bag a) (fun st bag as => resolveArgs f p st bag as) p s
          (effScope p st id) id st bag := by
  rw [get, hov, hs]
  cases effScope p st id <;> rfl

theorem sinv_main (p : Prog) : ∀ f : Nat,
    (∀ st bag id, SInv p st bag (get f p st bag id).1 (get f p st bag id).2.1) ∧
    (∀ st bag a, SInv p st bag (resolveArg f p st bag a).1 (resolveArg f p st bag a).2.1) ∧
    (∀ st bag as, SInv p st bag (resolveArgs f p st bag as).1 (resolveArgs f p st bag as).2.1) ∧
    (∀ st bag tag, SInv p st bag (getTagged f p st bag tag).1 (getTagged f p st bag tag).2.1) := by
  intro f
  induction f with
  | zero => exact ⟨fun _ _ _ => SInv.refl .., fun _ _ _ => SInv.refl .., fun _ _ _ => SInv.refl .., fun _ _ _ => SInv.refl ..⟩
  | succ f ih =>
    obtain ⟨ihG, ihA, ihAS, ihT⟩ := ih
    refine ⟨fun st bag id => ?_, fun st bag a => ?_, fun st bag as => ?_, fun st bag tag => ?_⟩
    · unfold get
      cases st.ovServices.lookup id with
      | some v => exact SInv.refl ..
      | none =>
        cases svcByName p id with
        | none => exact SInv.refl ..
        | some s =>
          simp only
          split
          · exact SInv.refl ..
          next hmiss =>
            -- a cache miss, read off the scope, is what the final bookkeeping needs
            have hsh : effScope p st id = .shared → st.shared.lookup id = none := fun hsc => by rw [hsc] at hmiss; exact hmiss
            have hctx : effScope p st id = .contextual → bag.lookup id = none := fun hsc => by rw [hsc] at hmiss; exact hmiss
            exact getBody_inv (I := SInv p st bag) (hheap := fun hk h => h.heap _ hk)
              (hra := fun a _ _ h => h.trans (ihA _ _ a)) (hras := fun as _ _ h => h.trans (ihAS _ _ as))
              (hfin := fun obj _ _ h => h.finish id obj hsh hctx) (SInv.refl ..)
    · unfold resolveArg
      cases Compile.argChain.find? (Compile.supports · a.raw) with
      | none => exact SInv.refl ..
      | some k =>
        cases k with
        | service => exact ihG st bag _
        | tagged => exact ihT st bag _
        | pattern => exact SInv.ofPInv bag (evalRaw_pinv p f st a.raw)
        | _ => exact SInv.refl ..
    · unfold resolveArgs
      dsimp only
      rcases hr : List.foldl (argsStep fun st bag a => resolveArg f p st bag a) (st, bag, [], []) as with ⟨s1, b1, vals, errs⟩
      have := foldl_inv_eq (I := fun acc => SInv p st bag acc.1 acc.2.1) hr (SInv.refl ..) (argsStep_inv fun a _ _ h => h.trans (ihA _ _ a))
      cases errs <;> exact this
    · unfold getTagged
      dsimp only
      rcases hr : List.foldl (taggedStep fun st bag n => get f p st bag n) (st, bag, [], none) _ with ⟨s1, b1, vals, err⟩
      have := foldl_inv_eq (I := fun acc => SInv p st bag acc.1 acc.2.1) hr (SInv.refl ..) (taggedStep_inv fun n _ _ h => h.trans (ihG _ _ n))
      cases err <;> exact this

theorem get_sinv (p : Prog) (f : Nat) (st : St) (bag : Bag) (id : String) :
    SInv p st bag (get f p st bag id).1 (get f p st bag id).2.1 := (sinv_main p f).1 st bag id

theorem resolveArg_sinv (p : Prog) (f : Nat) (st : St) (bag : Bag) (a : Output.Arg) :
    SInv p st bag (resolveArg f p st bag a).1 (resolveArg f p st bag a).2.1 := (sinv_main p f).2.1 st bag a

theorem resolveArgs_sinv (p : Prog) (f : Nat) (st : St) (bag : Bag) (as : List Output.Arg) :
    SInv p st bag (resolveArgs f p st bag as).1 (resolveArgs f p st bag as).2.1 := (sinv_main p f).2.2.1 st bag as

theorem getTagged_sinv (p : Prog) (f : Nat) (st : St) (bag : Bag) (tag : String) :
    SInv p st bag (getTagged f p st bag tag).1 (getTagged f p st bag tag).2.1 := (sinv_main p f).2.2.2 st bag tag

end GM.Runtime
