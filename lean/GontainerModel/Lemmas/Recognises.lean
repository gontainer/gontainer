/-
Languages of the derived forms (`opt`, `chr`, `lit`, a star over a class, a class in front), and
`Recognises r P`: the Boolean function `P` is the language of `r`. The grammars of
`Lemmas/Grammar.lean` and `Lemmas/Composite.lean` are assembled from closure lemmas for `Recognises`.
-/
import GontainerModel.Lemmas.Re
namespace GM.Re

theorem lang_opt_iff (r : Re) (w : List Char) : Lang (opt r) w ↔ Lang r w ∨ w = [] := by
  unfold opt; rw [lang_alt_iff, lang_eps_iff]

theorem lang_optcat_iff (r s : Re) (w : List Char) : Lang (cat (opt r) s) w ↔ Lang s w ∨ Lang (cat r s) w := by
  constructor
  · intro h
    obtain ⟨x, y, rfl, hx, hy⟩ := (lang_cat_iff ..).mp h
    rcases (lang_opt_iff ..).mp hx with hx | rfl
    · exact Or.inr (Lang.cat hx hy)
    · exact Or.inl hy
  · rintro (h | h)
    · exact Lang.cat (x := []) (Lang.altR Lang.eps) h
    · obtain ⟨x, y, rfl, hx, hy⟩ := (lang_cat_iff ..).mp h
      exact Lang.cat (Lang.altL hx) hy

theorem _root_.GM.Cls.mem_mono {k k' : Cls} (h : ∀ r ∈ k, r ∈ k') {c : Char} (hc : k.mem c = true) : k'.mem c = true := by
  simp only [Cls.mem, List.any_eq_true] at hc ⊢
  exact hc.imp fun r hr => ⟨h r hr.1, hr.2⟩

theorem mem_chr (c d : Char) : Cls.mem [(c.toNat, c.toNat)] d = true ↔ d = c := by
  simp only [Cls.mem, List.any_cons, List.any_nil, Bool.or_false, Bool.and_eq_true, decide_eq_true_eq]
  exact ⟨fun h => Char.ext (UInt32.toNat_inj.mp (Nat.le_antisymm h.2 h.1)), fun h => h ▸ ⟨Nat.le_refl _, Nat.le_refl _⟩⟩

/-- `cls [(42, 42)]` is `chr '*'` by evaluation, so this also speaks of the one-character classes of `Model/Regexes.lean` -/
theorem lang_chr_iff (c : Char) (w : List Char) : Lang (chr c) w ↔ w = [c] := by
  simp only [chr, lang_cls_iff, mem_chr]
  constructor
  · rintro ⟨_, rfl, rfl⟩; rfl
  · rintro rfl; exact ⟨c, rfl, rfl⟩

/-- `lit` has the shape `regexp/syntax` gives a literal word: the last character is not followed by `eps`, hence the middle case -/
theorem lang_lit_iff : ∀ (k w : List Char), Lang (lit k) w ↔ w = k
  | [], w => lang_eps_iff w
  | [c], w => lang_chr_iff c w
  | c :: d :: k, w => by
    constructor
    · intro h
      obtain ⟨x, y, rfl, hx, hy⟩ := (lang_cat_iff ..).mp h
      rw [(lang_chr_iff ..).mp hx, (lang_lit_iff (d :: k) y).mp hy]; rfl
    · rintro rfl
      exact Lang.cat (x := [c]) ((lang_chr_iff ..).mpr rfl) ((lang_lit_iff (d :: k) _).mpr rfl)

theorem lang_star_cls_iff (k : Cls) (w : List Char) : Lang (star (cls k)) w ↔ w.all k.mem = true := by
  constructor
  · refine star_induction (P := fun w => w.all k.mem = true) rfl fun x y hx _ ih => ?_
    obtain ⟨c, rfl, hc⟩ := (lang_cls_iff _ _).mp hx
    simp [hc, ih]
  · intro h
    induction w with
    | nil => exact Lang.starNil
    | cons c t ih =>
      simp only [List.all_cons, Bool.and_eq_true] at h
      exact Lang.starCons (x := [c]) (Lang.cls h.1) (ih h.2)

theorem lang_cls_cat_iff (k : Cls) (r : Re) (w : List Char) :
    Lang (cat (cls k) r) w ↔ ∃ c t, w = c :: t ∧ k.mem c = true ∧ Lang r t := by
  constructor
  · intro h
    obtain ⟨_, t, rfl, hx, ht⟩ := (lang_cat_iff ..).mp h
    obtain ⟨c, rfl, hc⟩ := (lang_cls_iff ..).mp hx
    exact ⟨c, t, rfl, hc, ht⟩
  · rintro ⟨c, t, rfl, hc, ht⟩
    exact Lang.cat (Lang.cls hc) ht

theorem lang_chr_cat_iff (c : Char) (r : Re) (w : List Char) : Lang (cat (chr c) r) w ↔ ∃ t, w = c :: t ∧ Lang r t := by
  simp only [chr, lang_cls_cat_iff, mem_chr]
  constructor
  · rintro ⟨_, t, rfl, rfl, ht⟩; exact ⟨t, rfl, ht⟩
  · rintro ⟨t, rfl, ht⟩; exact ⟨c, t, rfl, rfl, ht⟩

theorem lang_cat_chr_iff (r : Re) (c : Char) (w : List Char) : Lang (cat r (chr c)) w ↔ ∃ m, w = m ++ [c] ∧ Lang r m := by
  constructor
  · intro h
    obtain ⟨m, _, rfl, hm, hy⟩ := (lang_cat_iff ..).mp h
    rw [(lang_chr_iff ..).mp hy]
    exact ⟨m, rfl, hm⟩
  · rintro ⟨m, rfl, hm⟩
    exact Lang.cat hm ((lang_chr_iff ..).mpr rfl)

theorem lang_cat_assoc {r s t : Re} (w : List Char) : Lang (cat (cat r s) t) w ↔ Lang (cat r (cat s t)) w := by
  constructor
  · intro h
    obtain ⟨_, z, rfl, hxy, hz⟩ := (lang_cat_iff ..).mp h
    obtain ⟨x, y, rfl, hx, hy⟩ := (lang_cat_iff ..).mp hxy
    exact List.append_assoc .. ▸ Lang.cat hx (Lang.cat hy hz)
  · intro h
    obtain ⟨x, _, rfl, hx, hyz⟩ := (lang_cat_iff ..).mp h
    obtain ⟨y, z, rfl, hy, hz⟩ := (lang_cat_iff ..).mp hyz
    exact List.append_assoc .. ▸ Lang.cat (Lang.cat hx hy) hz

theorem lang_cat_congr {r r' s s' : Re} (hr : ∀ w, Lang r w ↔ Lang r' w) (hs : ∀ w, Lang s w ↔ Lang s' w)
    (w : List Char) : Lang (cat r s) w ↔ Lang (cat r' s') w := by
  simp only [lang_cat_iff, hr, hs]

theorem lang_star_cls_cat_cons_iff (k : Cls) (r : Re) (c : Char) (t : List Char) :
    Lang (cat (star (cls k)) r) (c :: t) ↔ Lang r (c :: t) ∨ (k.mem c = true ∧ Lang (cat (star (cls k)) r) t) := by
  rw [lang_cat_cons_iff]
  refine or_congr (and_iff_right Lang.starNil) ⟨?_, ?_⟩
  · rintro ⟨x, y, rfl, hx, hy⟩
    rw [lang_star_cls_iff, List.all_cons, Bool.and_eq_true, ← lang_star_cls_iff] at hx
    exact ⟨hx.1, Lang.cat hx.2 hy⟩
  · rintro ⟨hc, h⟩
    obtain ⟨x, y, rfl, hx, hy⟩ := (lang_cat_iff ..).mp h
    exact ⟨x, y, rfl, Lang.starCons (x := [c]) (Lang.cls hc) hx, hy⟩

theorem lang_star_cat_nil_iff (r s : Re) : Lang (cat (star r) s) [] ↔ Lang s [] := by
  constructor
  · intro h
    obtain ⟨x, y, hw, _, hy⟩ := (lang_cat_iff ..).mp h
    rwa [(List.nil_eq_append_iff.mp hw).2] at hy
  · exact Lang.cat (x := []) Lang.starNil

theorem lang_star_chr_cat_cons_iff (d : Char) (r : Re) (a : Char) (t : List Char) :
    Lang (star (cat (chr d) r)) (a :: t) ↔ a = d ∧ Lang (cat r (star (cat (chr d) r))) t := by
  simp only [lang_star_cons_iff, lang_chr_cat_iff]
  constructor
  · rintro ⟨x, y, rfl, ⟨_, ⟨⟩, hx⟩, hy⟩
    exact ⟨rfl, Lang.cat hx hy⟩
  · rintro ⟨rfl, h⟩
    obtain ⟨x, y, rfl, hx, hy⟩ := (lang_cat_iff ..).mp h
    exact ⟨x, y, rfl, ⟨x, rfl, hx⟩, hy⟩

def Recognises (r : Re) (P : List Char → Bool) : Prop := ∀ w, Lang r w ↔ P w = true

namespace Recognises
variable {r s : Re} {P Q : List Char → Bool}

theorem accepts_eq (h : Recognises r P) (w : List Char) : accepts r w = P w :=
  Bool.eq_iff_iff.mpr ((accepts_iff r w).trans (h w))

theorem congr (h : Recognises r P) (e : ∀ w, P w = Q w) : Recognises r Q :=
  fun w => e w ▸ h w

theorem of_lang (h : Recognises r P) (e : ∀ w, Lang s w ↔ Lang r w) : Recognises s P :=
  fun w => (e w).trans (h w)

theorem group (h : Recognises r P) (n : String) : Recognises (group n r) P :=
  fun w => (lang_group_iff n r w).trans (h w)

theorem alt (hr : Recognises r P) (hs : Recognises s Q) : Recognises (alt r s) fun w => P w || Q w :=
  fun w => by rw [lang_alt_iff, hr w, hs w, Bool.or_eq_true]

theorem optcat (hs : Recognises s P) (hrs : Recognises (cat r s) Q) : Recognises (cat (opt r) s) fun w => P w || Q w :=
  fun w => by rw [lang_optcat_iff, hs w, hrs w, Bool.or_eq_true]

/-- `Q` is given by its two defining equations, which hold by `rfl` for the recognisers of `Model/Grammar.lean` -/
theorem cls_cat (h : Recognises r P) (k : Cls) (nil : Q [] = false) (cons : ∀ c t, Q (c :: t) = (k.mem c && P t)) :
    Recognises (cat (cls k) r) Q := by
  intro w
  rw [lang_cls_cat_iff]
  cases w with
  | nil => simp [nil]
  | cons c t => simp [cons, h t, and_assoc]

theorem chr_cat (h : Recognises r P) (a : Char) (nil : Q [] = false) (cons : ∀ c t, Q (c :: t) = (c == a && P t)) :
    Recognises (cat (chr a) r) Q :=
  h.cls_cat _ nil fun c t => by rw [cons, Bool.eq_iff_iff.mpr ((mem_chr a c).trans beq_iff_eq.symm)]

end Recognises

theorem recognises_lit (k : List Char) : Recognises (lit k) (· == k) :=
  fun w => by rw [lang_lit_iff, beq_iff_eq]

end GM.Re
