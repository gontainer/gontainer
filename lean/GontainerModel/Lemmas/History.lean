/-
Invariants of whole histories of container calls: every operation is a `get` / `getTaggedBy` / `getParam` from
some bag, or attaches an empty bag, so what `SInv` says of one call holds, bag by bag, of any sequence of them.
-/
import GontainerModel.Model.History
import GontainerModel.Lemmas.ServiceOnce
namespace GM.Runtime

theorem bagOf_setBag_same (st : St) (c : String) (b : Bag) : bagOf (setBag st c b) c = b :=
  congrArg (·.getD []) (lookup_cons_self c b _)

theorem bagOf_setBag_ne {st : St} {c c' : String} {b : Bag} (h : c' ≠ c) : bagOf (setBag st c b) c' = bagOf st c' := by
  unfold bagOf setBag
  simp only [List.lookup, beq_eq_false_iff_ne.mpr h]
  rw [lookup_filter_key _ (· != c), if_pos (bne_iff_ne.mpr h)]

theorem HInv.ctxBags {p : Prog} {st s1 : St} (h : HInv p st s1) (cb : List (String × Bag)) : HInv p st { s1 with ctxBags := cb } :=
  ⟨h.ovP, h.ovS, h.sh, h.pc, h.lg, h.nx⟩

theorem bagOf_congr {st s1 : St} (h : s1.ctxBags = st.ctxBags) (c : String) : bagOf s1 c = bagOf st c := by
  unfold bagOf
  rw [h]

theorem stepOp_inv (p : Prog) (F : Nat) (st : St) (o : Op) : HInv p st (stepOp F p st o).1 := by
  cases o with
  | get id => exact (get_sinv p F st [] id).toHInv
  | tagged tag => exact (getTagged_sinv p F st [] tag).toHInv
  | param id => exact HInv.ofPInv (getParam_pinv p F st id)
  | getCtx c id => exact (get_sinv p F st (bagOf st c) id).toHInv.ctxBags _
  | taggedCtx c tag => exact (getTagged_sinv p F st (bagOf st c) tag).toHInv.ctxBags _
  | newCtx c => exact (HInv.refl p st).ctxBags _

theorem stepOp_bag_same (p : Prog) (F : Nat) (st : St) (o : Op) (c : String) (hnew : o ≠ .newCtx c)
    (h1 : ∀ id, o ≠ .getCtx c id) (h2 : ∀ tag, o ≠ .taggedCtx c tag) : bagOf (stepOp F p st o).1 c = bagOf st c := by
  cases o with
  | get id => exact bagOf_congr (get_sinv p F st [] id).ctx c
  | tagged tag => exact bagOf_congr (getTagged_sinv p F st [] tag).ctx c
  | param id => exact bagOf_congr (getParam_pinv p F st id).ctxBags c
  | getCtx c' id =>
    have hc : c ≠ c' := fun e => h1 id (by rw [e])
    exact (bagOf_setBag_ne hc).trans (bagOf_congr (get_sinv p F st (bagOf st c') id).ctx c)
  | taggedCtx c' tag =>
    have hc : c ≠ c' := fun e => h2 tag (by rw [e])
    exact (bagOf_setBag_ne hc).trans (bagOf_congr (getTagged_sinv p F st (bagOf st c') tag).ctx c)
  | newCtx c' =>
    have hc : c ≠ c' := fun e => hnew (by rw [e])
    show (List.lookup c ((c', []) :: st.ctxBags)).getD [] = bagOf st c
    rw [lookup_cons_ne hc]
    rfl

theorem stepOp_bag_ext (p : Prog) (F : Nat) (st : St) (o : Op) (c : String) (hnew : o ≠ .newCtx c) :
    Ext (fun _ => True) (bagOf st c) (bagOf (stepOp F p st o).1 c) := by
  by_cases h1 : ∃ id, o = .getCtx c id
  · obtain ⟨id, rfl⟩ := h1
    show Ext _ _ (bagOf (setBag _ c _) c)
    rw [bagOf_setBag_same]
    exact (get_sinv p F st (bagOf st c) id).bg.mono fun _ _ => trivial
  by_cases h2 : ∃ tag, o = .taggedCtx c tag
  · obtain ⟨tag, rfl⟩ := h2
    show Ext _ _ (bagOf (setBag _ c _) c)
    rw [bagOf_setBag_same]
    exact (getTagged_sinv p F st (bagOf st c) tag).bg.mono fun _ _ => trivial
  · rw [stepOp_bag_same p F st o c hnew (fun id e => h1 ⟨id, e⟩) (fun tag e => h2 ⟨tag, e⟩)]
    exact Ext.refl _ _

theorem runOps_inv (p : Prog) (F : Nat) (ops : List Op) (st : St) : HInv p st (runOps F p st ops) :=
  foldl_inv (HInv p st) ops st (HInv.refl p st) fun s o _ h => h.trans (stepOp_inv p F s o)

theorem runOps_bags (p : Prog) (F : Nat) (ops : List Op) (st : St) (c : String) (hnew : Op.newCtx c ∉ ops) :
    Ext (fun _ => True) (bagOf st c) (bagOf (runOps F p st ops) c) :=
  foldl_inv (fun s => Ext (fun _ => True) (bagOf st c) (bagOf s c)) ops st (Ext.refl _ _)
    fun s o ho h => h.trans (stepOp_bag_ext p F s o c fun e => hnew (e ▸ ho))

end GM.Runtime
