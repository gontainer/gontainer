/-
Injectivity of the method-name scheme of the getter template: G, GInContext, MustG, MustGInContext
over getters that the validator accepts (no "Must" prefix, no "InContext" suffix). The two bits are read back from the name:
it starts with "Must" iff the prefix was added and, the prefix removed, it ends with "InContext" iff the suffix was added.
-/
import GontainerModel.Model.Validate
namespace GM.Methods
open GM GM.Validate

abbrev must : List Char := mustPrefix
abbrev ic : List Char := inContextSuffix

/-- the method name derived from getter `g`: with or without the prefix "Must", with or without the suffix "InContext" -/
def form (m c : Bool) (g : List Char) : List Char := (if m then must else []) ++ (g ++ if c then ic else [])

/-- what the validator guarantees of an accepted getter -/
def Ok (g : List Char) : Prop := must.isPrefixOf g = false ∧ ic.isSuffixOf g = false

theorem ic_not_must {g : List Char} (h : Ok g) : must.isPrefixOf (g ++ ic) = false := by
  -- `|g| < 4`: the character at position `|g|` is `I`, which is not a letter of "Must"; `|g| ≥ 4`: the first four characters are `g`'s
  match g, h with
  | [], _ => rfl
  | [a], _ => simp [ic, inContextSuffix, must, mustPrefix, List.isPrefixOf]
  | [a, b], _ => simp [ic, inContextSuffix, must, mustPrefix, List.isPrefixOf]
  | [a, b, c], _ => simp [ic, inContextSuffix, must, mustPrefix, List.isPrefixOf]
  | a :: b :: c :: d :: rest, h => simpa [must, mustPrefix, List.isPrefixOf] using h.1

theorem must_prefix_form {g : List Char} (h : Ok g) (m c : Bool) : must.isPrefixOf (form m c g) = m := by
  cases m <;> cases c
  · simpa [form] using h.1
  · simpa [form] using ic_not_must h
  · simp [form]
  · simp [form]

theorem ic_suffix_form {g : List Char} (h : Ok g) (c : Bool) : ic.isSuffixOf (g ++ if c then ic else []) = c := by
  cases c
  · simpa using h.2
  · simp [List.isSuffixOf, List.reverse_append]

theorem form_inj {g h : List Char} (hg : Ok g) (hh : Ok h) {m c m' c' : Bool}
    (e : form m c g = form m' c' h) : m = m' ∧ c = c' ∧ g = h := by
  obtain rfl : m = m' := by rw [← must_prefix_form hg m c, e, must_prefix_form hh]
  have e' := List.append_cancel_left e
  obtain rfl : c = c' := by rw [← ic_suffix_form hg c, e', ic_suffix_form hh]
  exact ⟨rfl, rfl, List.append_cancel_right e'⟩

/-- the four method names of a getter, in the order of the template -/
def forms (g : List Char) : List (List Char) := [form false false g, form false true g, form true false g, form true true g]

theorem mem_forms (g x : List Char) : x ∈ forms g ↔ ∃ m c, x = form m c g := by
  simp [forms, or_assoc]

def allForms (gs : List (List Char)) : List (List Char) := gs.flatMap forms

theorem allForms_nodup (gs : List (List Char)) (hnd : gs.Nodup) (hok : ∀ g ∈ gs, Ok g) : (allForms gs).Nodup := by
  refine List.pairwise_flatMap.mpr ⟨fun g hg => ?_, ?_⟩
  · have ne : ∀ m c m' c', (m, c) ≠ (m', c') → form m c g ≠ form m' c' g := fun m c m' c' hne e =>
      hne (by obtain ⟨rfl, rfl, _⟩ := form_inj (hok g hg) (hok g hg) e; rfl)
    simp [forms, ne]
  · refine hnd.imp_of_mem fun {g h} hg hh hne x hx y hy e => hne ?_
    obtain ⟨m, c, rfl⟩ := (mem_forms g x).mp hx
    obtain ⟨m', c', rfl⟩ := (mem_forms h y).mp hy
    exact (form_inj (hok g hg) (hok h hh) e).2.2

theorem mem_allForms (gs : List (List Char)) (x : List Char) : x ∈ allForms gs ↔ ∃ g ∈ gs, ∃ m c, x = form m c g := by
  simp only [allForms, List.mem_flatMap, mem_forms]

/-- `res` stands for the method table of the runtime, whose entries the validator refuses as getters (`hout`). `hstem` is what
excludes `g ++ "InContext"` from the table when only `g ∉ res` is known. -/
theorem allForms_disjoint (res : List (List Char)) (gs : List (List Char))
    (hmust : ∀ r ∈ res, must.isPrefixOf r = false)
    (hstem : ∀ r ∈ res, ∀ g, r = g ++ ic → g ∈ res)
    (hout : ∀ g ∈ gs, g ∉ res) : ∀ x ∈ allForms gs, x ∉ res := by
  intro x hx hr
  obtain ⟨g, hg, m, c, rfl⟩ := (mem_allForms gs x).mp hx
  cases m
  · cases c
    · exact hout g hg (by simpa [form] using hr)
    · exact hout g hg (hstem _ hr g (by simp [form]))
  · have := hmust _ hr
    simp [form, must, mustPrefix] at this

end GM.Methods
