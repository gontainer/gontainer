/-
`%fn(args)%` tokens: what the backtracking matcher extracts from the expression between the delimiters
(`regex.Match(regexSimpleFn, expr)`: groups `fn` and `params`) is what a direct parser reads off:
the longest identifier prefix, an opening parenthesis, everything up to the closing parenthesis that ends the expression.
On a star over a one-character expression the matcher is a greedy run that tries its stops, the farthest first
(`bt_star_char`; this is where the fuel is discharged). Two continuations occur: after the identifier one that refuses every
identifier character, so only the farthest stop counts (`greedy_refuse`, for `bt_run_group`); after `.*` one that wants exactly
`)`, so only the stop before a final `)` counts (`greedy_only`, for `bt_params`).
-/
import GontainerModel.Model.Grammar
import GontainerModel.Lemmas.Recognises
namespace GM.Re

theorem bt_cat (F : Nat) (r s : Re) (w : List Char) (cs : Caps) (k : List Char → Caps → Option Caps) :
    bt F (cat r s) w cs k = bt F r w cs (fun w' cs' => bt F s w' cs' k) := by
  simp only [bt]

theorem bt_group (F : Nat) (n : String) (r : Re) (w : List Char) (cs : Caps) (k : List Char → Caps → Option Caps) :
    bt F (group n r) w cs k =
      bt F r w cs (fun w' cs' => k w' ((n, w.take (w.length - w'.length)) :: cs'.filter (·.1 != n))) := by
  simp only [bt]

/-- `r` consumes exactly one character, one that `p` accepts, and captures nothing -/
structure IsChar (r : Re) (p : Char → Bool) : Prop where
  nil : ∀ F cs k, bt F r [] cs k = none
  cons : ∀ F c w cs k, bt F r (c :: w) cs k = if p c then k w cs else none

theorem isChar_cls (T : Cls) : IsChar (cls T) T.mem :=
  ⟨fun F cs k => by simp only [bt], fun F c w cs k => by simp only [bt]⟩

theorem isChar_any : IsChar anyNotNL (· != '\n') :=
  ⟨fun F cs k => by simp only [bt], fun F c w cs k => by simp only [bt]⟩

theorem isChar_chr (a : Char) : IsChar (chr a) (· == a) :=
  ⟨(isChar_cls _).nil, fun F c w cs k => by
    rw [chr, (isChar_cls _).cons, Bool.eq_iff_iff.mpr ((mem_chr a c).trans beq_iff_eq.symm)]⟩

theorem bt_chr_end (F : Nat) (a : Char) (cs : Caps) :
    ∀ y, bt F (chr a) y cs (fun w' cs => if w' = [] then some cs else none) = if y = [a] then some cs else none
  | [] => (isChar_chr a).nil ..
  | [c] => by rw [(isChar_chr a).cons]; by_cases h : c = a <;> simp [h]
  | c :: c' :: y => by
    rw [(isChar_chr a).cons, if_neg (List.cons_ne_nil _ _), ite_self, if_neg (show ¬c :: c' :: y = [a] by simp)]

/-- the stops of a greedy run over `p`-characters, the farthest first -/
def greedy {α : Type} (p : Char → Bool) (k : List Char → Option α) : List Char → Option α
  | [] => k []
  | c :: w => if p c then (greedy p k w).or (k (c :: w)) else k (c :: w)

theorem bt_star_char {r : Re} {p : Char → Bool} (hr : IsChar r p) :
    ∀ (w : List Char) (F : Nat) (cs : Caps) (k : List Char → Caps → Option Caps),
      w.length < F → bt F (star r) w cs k = greedy p (k · cs) w
  | _, 0, _, _, hF => absurd hF (Nat.not_lt_zero _)
  | [], F + 1, cs, k, _ => by rw [bt, hr.nil, greedy]
  | c :: w, F + 1, cs, k, hF => by
    -- one iteration of `r` takes `c`, so the guard of the star lets the matcher go on, with one unit of fuel less
    have progress : w.length < (c :: w).length := Nat.lt_succ_self _
    rw [bt, hr.cons, greedy]
    cases p c with
    | false => rfl
    | true =>
      rw [if_pos rfl, if_pos rfl, if_pos progress, bt_star_char hr w F cs k (Nat.lt_of_succ_lt_succ hF)]
      cases greedy p (k · cs) w <;> rfl

theorem greedy_refuse {α : Type} {p : Char → Bool} {k : List Char → Option α}
    (hk : ∀ c t, p c = true → k (c :: t) = none) : ∀ w, greedy p k w = k (w.dropWhile p)
  | [] => rfl
  | c :: w => by
    unfold greedy
    cases hc : p c
    · simp [List.dropWhile, hc]
    · simp [List.dropWhile, hc, hk c w hc, greedy_refuse hk w]

theorem greedy_only {α : Type} {p : Char → Bool} {k : List Char → Option α} {d : Char} (hk : ∀ y, y ≠ [d] → k y = none) :
    ∀ w, greedy p k w = if w.getLast? == some d && w.dropLast.all p then k [d] else none
  | [] => by rw [greedy, hk [] (List.cons_ne_nil _ _).symm]; rfl
  | [c] => by
    have h1 : greedy p k [c] = k [c] := by
      rw [greedy, greedy, hk [] (List.cons_ne_nil _ _).symm]; cases p c <;> rfl
    rw [h1]
    by_cases hcd : c = d
    · subst hcd; simp
    · rw [hk [c] (by simpa using hcd)]; simp [hcd]
  | c :: c' :: w => by
    -- a stop counts only if every character before it is accepted, the first one too
    have hcond : ((c :: c' :: w).getLast? == some d && (c :: c' :: w).dropLast.all p) =
        (p c && ((c' :: w).getLast? == some d && (c' :: w).dropLast.all p)) := by
      rw [List.getLast?_cons_cons, List.dropLast_cons_cons, List.all_cons, Bool.and_left_comm]
    rw [greedy, greedy_only hk (c' :: w), hk (c :: c' :: w) (by simp), hcond]
    cases p c with
    | false => rfl
    | true => rw [if_pos rfl, Option.or_none, Bool.true_and]

end GM.Re

namespace GM.Grammar
open GM GM.Re

/-- the rest of an expression after the identifier: `(`, then the text up to the `)` that ends the expression -/
def parseRest : List Char → Option (List Char)
  | '(' :: t => if t.getLast? == some ')' && t.dropLast.all (· != '\n') then some t.dropLast else none
  | _ => none

/-- direct reading of `Ident(params)` -/
def parseSimpleFn (e : List Char) : Option (List Char × List Char) :=
  let f := e.takeWhile isIdentTail
  match e.dropWhile isIdentTail with
  | '(' :: t =>
    if goToken f && t.getLast? == some ')' && t.dropLast.all (· != '\n') then some (f, t.dropLast) else none
  | _ => none

theorem parseSimpleFn_eq (e : List Char) :
    parseSimpleFn e =
      if goToken (e.takeWhile isIdentTail) then (parseRest (e.dropWhile isIdentTail)).map (e.takeWhile isIdentTail, ·)
      else none := by
  unfold parseSimpleFn parseRest
  dsimp only
  split
  next _ t _ =>
    -- `(` follows the identifier: the test of the identifier moves in front of the other two
    cases goToken (e.takeWhile isIdentTail) with
    | false => rfl
    | true =>
      rw [Bool.true_and, if_pos rfl]
      cases t.getLast? == some ')' && t.dropLast.all (· != '\n') <;> rfl
  next => cases goToken (e.takeWhile isIdentTail) <;> rfl

/-- `\((?P<params>.*)\)`: what follows the group `fn` in `regexSimpleFn` (`simpleFn_shape`) -/
def restRe : Re := cat (chr '(') (cat (group "params" (star anyNotNL)) (chr ')'))

theorem bt_rest_cons (F : Nat) (c : Char) (t : List Char) (cs : Caps) (k : List Char → Caps → Option Caps) :
    bt F restRe (c :: t) cs k =
      if c == '(' then bt F (cat (group "params" (star anyNotNL)) (chr ')')) t cs k else none := by
  rw [restRe, bt_cat, (isChar_chr _).cons]

/-- `(?P<params>.*)\)` at the end of the expression: of the stops of `.*` only the one before a final `)` counts -/
theorem bt_params (F : Nat) (t : List Char) (cs : Caps) (hF : t.length < F) :
    bt F (cat (group "params" (star anyNotNL)) (chr ')')) t cs (fun w' cs => if w' = [] then some cs else none) =
      if t.getLast? == some ')' && t.dropLast.all (· != '\n') then some (("params", t.dropLast) :: cs.filter (·.1 != "params"))
      else none := by
  have hend : ∀ cs' y, y ≠ [')'] → bt F (chr ')') y cs' (fun w' cs => if w' = [] then some cs else none) = none :=
    fun cs' y hy => by rw [bt_chr_end, if_neg hy]
  rw [bt_cat, bt_group, bt_star_char isChar_any t F _ _ hF, greedy_only (d := ')') fun y hy => hend _ y hy, bt_chr_end,
    if_pos rfl, List.dropLast_eq_take]
  rfl

theorem bt_rest (F : Nat) (r : List Char) (cs : Caps) (hF : r.length < F) :
    bt F restRe r cs (fun w' cs => if w' = [] then some cs else none) =
      (parseRest r).map fun ps => ("params", ps) :: cs.filter (·.1 != "params") := by
  cases r with
  | nil => rw [restRe, bt_cat]; exact (isChar_chr _).nil ..
  | cons c t =>
    rw [bt_rest_cons]
    by_cases hc : c = '('
    · subst hc
      rw [if_pos (beq_self_eq_true _), bt_params F t cs (Nat.lt_of_succ_lt hF), parseRest]
      cases t.getLast? == some ')' && t.dropLast.all (· != '\n') <;> rfl
    · simp [hc, parseRest]

/-- `(` is no identifier character -/
theorem bt_rest_ident {F : Nat} {a : Char} {t : List Char} {cs : Caps} {k : List Char → Caps → Option Caps}
    (ha : Rx.identTail.mem a = true) : bt F restRe (a :: t) cs k = none := by
  rw [bt_rest_cons, if_neg]
  intro h
  rw [eq_of_beq h] at ha
  exact absurd ha (by decide)

/-- the text a group captures in front of the rest of a greedy run: the run -/
theorem take_sub_dropWhile {α : Type} (p : α → Bool) (l : List α) :
    l.take (l.length - (l.dropWhile p).length) = l.takeWhile p := by
  have h : (l.takeWhile p ++ l.dropWhile p).take ((l.takeWhile p ++ l.dropWhile p).length - (l.dropWhile p).length) =
      l.takeWhile p := by rw [List.length_append, Nat.add_sub_cancel, List.take_left]
  rwa [List.takeWhile_append_dropWhile] at h

/-- a character of `L`, then the greedy run over `T ⊇ L`, as a group in front of a continuation that refuses the characters
of `T`: the group captures the whole run -/
theorem bt_run_group {L T : Cls} (hLT : ∀ c, L.mem c = true → T.mem c = true) {F : Nat} {n : String} {c : Char}
    {w : List Char} {cs : Caps} {k : List Char → Caps → Option Caps} (hl : L.mem c = true) (hF : (c :: w).length < F)
    (hk : ∀ a t cs', T.mem a = true → k (a :: t) cs' = none) :
    bt F (group n (cat (cls L) (star (cls T)))) (c :: w) cs k =
      k ((c :: w).dropWhile T.mem) ((n, (c :: w).takeWhile T.mem) :: cs.filter (·.1 != n)) := by
  rw [bt_group, bt_cat, (isChar_cls _).cons, if_pos hl, bt_star_char (isChar_cls _) w F _ _ (Nat.lt_of_succ_lt hF),
    greedy_refuse (fun a t ha => hk a t _ ha), ← List.dropWhile_cons_of_pos (hLT c hl), take_sub_dropWhile]

theorem simpleFn_shape : Rx.simpleFn = cat (group "fn" (cat (cls Rx.letter) (star (cls Rx.identTail)))) restRe := rfl

theorem captures_simpleFn (e : List Char) :
    captures Rx.simpleFn e = (parseSimpleFn e).map fun fp => [("fn", fp.1), ("params", fp.2)] := by
  have hnames : (groupNames Rx.simpleFn).eraseDups = ["fn", "params"] := by decide
  rw [parseSimpleFn_eq, show isIdentTail = Rx.identTail.mem from rfl, captures, hnames, simpleFn_shape, bt_cat]
  cases e with
  | nil => rw [bt_group, bt_cat, (isChar_cls _).nil]; rfl
  | cons c w =>
    by_cases hl : Rx.letter.mem c = true
    · have hT : Rx.identTail.mem c = true := Cls.mem_mono (by decide) hl
      have hgo : goToken ((c :: w).takeWhile Rx.identTail.mem) = true := by
        rw [List.takeWhile_cons_of_pos hT, goToken, isLetter, hl]
        exact List.all_takeWhile
      rw [bt_run_group (fun _ => Cls.mem_mono (by decide)) hl (Nat.lt_succ_self _) (fun _ _ _ => bt_rest_ident),
        bt_rest _ _ _ (Nat.lt_succ_of_le (List.dropWhile_sublist _).length_le), if_pos hgo]
      cases parseRest ((c :: w).dropWhile Rx.identTail.mem) <;> rfl
    · have hgo : goToken ((c :: w).takeWhile Rx.identTail.mem) = false := by
        rw [List.takeWhile_cons]; split <;> simp [goToken, isLetter, hl]
      rw [bt_group, bt_cat, (isChar_cls _).cons, if_neg hl, hgo]; rfl

end GM.Grammar
