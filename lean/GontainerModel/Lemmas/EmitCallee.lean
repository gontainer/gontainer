/-
The callees of the statements the constructor template writes: every statement of `Emit.constructorBody` calls one of the
kinds of `Callee`, and `s.SetValue` is none of them.
-/
import GontainerModel.Model.Emit
import GontainerModel.Lemmas.Basics
namespace GM.C02

theorem creation_callee (s : Output.Service) : ∀ st ∈ Emit.creation s, st.fn = "s.SetConstructor" :=
  forall_mem_ite (List.forall_mem_singleton.mpr rfl) <| forall_mem_ite (List.forall_mem_singleton.mpr rfl) <|
    forall_mem_ite (List.forall_mem_singleton.mpr rfl) fun _ h => nomatch h

inductive Callee : String → Prop
  | overrideParam : Callee "c.OverrideParam"
  | setConstructor : Callee "s.SetConstructor"
  | setField : Callee "s.SetField"
  | appendCall : Callee "s.AppendCall"
  | appendWither : Callee "s.AppendWither"
  | tag : Callee "s.Tag"
  | setScope (sc : Output.Scope) : Callee (Emit.scopeSetter sc)
  | overrideService : Callee "c.OverrideService"
  | addDecorator : Callee "c.AddDecorator"

theorem serviceBlock_callee (s : Output.Service) : ∀ st ∈ Emit.serviceBlock s, Callee st.fn := by
  unfold Emit.serviceBlock
  refine List.forall_mem_append.mpr ⟨forall_mem_ite ?todo ?live, List.forall_mem_singleton.mpr .overrideService⟩
  case todo => exact List.forall_mem_singleton.mpr .setConstructor
  case live =>
    simp only [List.forall_mem_append, List.forall_mem_map, List.forall_mem_singleton]
    refine ⟨⟨⟨⟨?creation, ?fields⟩, ?calls⟩, ?tags⟩, .setScope s.scope⟩
    case creation => exact fun st h => creation_callee s st h ▸ .setConstructor
    case fields => exact fun _ _ => .setField
    case calls =>
      intro c _
      cases c.immutable with
      | false => exact .appendCall
      | true => exact .appendWither
    case tags => exact fun _ _ => .tag

theorem constructorBody_callee (o : Output.Output) : ∀ st ∈ Emit.constructorBody o, Callee st.fn := by
  unfold Emit.constructorBody
  simp only [List.forall_mem_append, List.forall_mem_map, List.forall_mem_flatMap]
  exact ⟨⟨fun _ _ => .overrideParam, fun s _ => serviceBlock_callee s⟩, fun _ _ => .addDecorator⟩

theorem setValue_not_callee : ¬ Callee "s.SetValue" := by
  intro h
  generalize hx : "s.SetValue" = x at h
  cases h with
  | setScope sc => cases sc <;> simp [Emit.scopeSetter] at hx
  | _ => simp at hx

end GM.C02
