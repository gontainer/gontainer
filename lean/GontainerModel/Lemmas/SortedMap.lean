/-
Association lists as finite maps: a duplicate-free list of bindings is determined by its set of
bindings, sorting by an injective key is a function of that set, hence `AMap.keys` / `AMap.sorted`
do not depend on the order in which a map's bindings are listed (in the model, the order in which Go happens to iterate the map).
-/
import GontainerModel.Lemmas.Basics
namespace GM
open List

namespace AMap
variable {V : Type}

theorem strLe_trans (a b c : String) : strLe a b = true → strLe b c = true → strLe a c = true := by
  simp only [strLe, decide_eq_true_eq]; exact String.le_trans

theorem strLe_total (a b : String) : (strLe a b || strLe b a) = true := by
  simp only [strLe, Bool.or_eq_true, decide_eq_true_eq]; exact String.le_total a b

theorem sortBy_eq_of_perm {β : Type} (key : β → String) {l₁ l₂ : List β} (h : l₁.Perm l₂)
    (inj : ∀ a ∈ l₁, ∀ b ∈ l₁, key a = key b → a = b) :
    l₁.mergeSort (fun a b => strLe (key a) (key b)) = l₂.mergeSort (fun a b => strLe (key a) (key b)) := by
  have p1 := List.mergeSort_perm l₁ (fun a b => strLe (key a) (key b))
  have p2 := List.mergeSort_perm l₂ (fun a b => strLe (key a) (key b))
  have tr : ∀ a b c : β, strLe (key a) (key b) = true → strLe (key b) (key c) = true → strLe (key a) (key c) = true :=
    fun a b c => strLe_trans _ _ _
  have tot : ∀ a b : β, (strLe (key a) (key b) || strLe (key b) (key a)) = true := fun a b => strLe_total _ _
  refine List.Perm.eq_of_pairwise ?_ (List.pairwise_mergeSort tr tot l₁) (List.pairwise_mergeSort tr tot l₂)
    (p1.trans (h.trans p2.symm))
  intro a b ha hb hab hba
  simp only [strLe, decide_eq_true_eq] at hab hba
  exact inj a (p1.subset ha) b (h.symm.subset (p2.subset hb)) (String.le_antisymm hab hba)

theorem mem_rawKeys (m : AMap V) (k : String) : k ∈ rawKeys m ↔ (m.get k).isSome := by
  rw [rawKeys, List.mem_eraseDups, get, lookup_isSome_iff]

theorem rawKeys_nodup (m : AMap V) : (rawKeys m).Nodup := nodup_eraseDups _

theorem keys_congr (m₁ m₂ : AMap V) (h : ∀ k, (m₁.get k).isSome = (m₂.get k).isSome) :
    keys m₁ = keys m₂ := by
  refine sortBy_eq_of_perm id ?_ fun _ _ _ _ e => e
  refine (List.perm_ext_iff_of_nodup (rawKeys_nodup m₁) (rawKeys_nodup m₂)).mpr fun k => ?_
  rw [mem_rawKeys, mem_rawKeys, h]

theorem sorted_congr (m₁ m₂ : AMap V) (h : ∀ k, m₁.get k = m₂.get k) : sorted m₁ = sorted m₂ := by
  unfold sorted
  rw [keys_congr m₁ m₂ (fun k => by rw [h])]
  congr 1
  funext k
  rw [h]

theorem get_eq_some_iff {m : AMap V} (nd : (m.map Prod.fst).Nodup) (k : String) (v : V) :
    m.get k = some v ↔ (k, v) ∈ m := by
  refine ⟨mem_of_lookup_eq_some, fun h => ?_⟩
  obtain ⟨w, hw⟩ := Option.isSome_iff_exists.mp ((lookup_isSome_iff m k).mpr (List.mem_map_of_mem h))
  rw [get, hw, (Prod.mk.inj (eq_of_nodup_map Prod.fst nd (mem_of_lookup_eq_some hw) h rfl)).2]

theorem get_perm {m₁ m₂ : AMap V} (h : m₁.Perm m₂) (nd : (m₁.map Prod.fst).Nodup) (k : String) :
    m₁.get k = m₂.get k := by
  apply Option.ext
  intro v
  rw [get_eq_some_iff nd, get_eq_some_iff ((h.map Prod.fst).nodup_iff.mp nd), h.mem_iff]

theorem sorted_perm {m₁ m₂ : AMap V} (h : m₁.Perm m₂) (nd : (m₁.map Prod.fst).Nodup) :
    sorted m₁ = sorted m₂ := sorted_congr m₁ m₂ (get_perm h nd)

theorem mem_sorted (m : AMap V) (k : String) (v : V) : (k, v) ∈ sorted m ↔ m.get k = some v := by
  unfold sorted keys
  simp only [List.mem_filterMap, List.mem_mergeSort, mem_rawKeys, Option.map_eq_some_iff, Prod.mk.injEq]
  constructor
  · rintro ⟨_, _, _, h, rfl, rfl⟩
    exact h
  · intro h
    exact ⟨k, by simp [h], v, h, rfl, rfl⟩

end AMap
end GM
