/-
An acyclic finite graph has a rank that decreases along every path: the number of nodes reachable from a node (`rankOf`).
The second half states what the runtime follows when it resolves (`argKind`, `ArgDep`, `SvcDep`; `refsOf` for parameters) and
shows that these are documented dependencies (`ConfigDep`), hence paths of the compiled graph, provided the output records what
the runtime looks up (`ParamDepsRecorded`, `ArgsRecorded`). So a graph the cycle validator accepts gives the rank that the
termination theorem for parameters needs (C07), and the rank hypotheses under which the history theorems of C05 and C15 are
stated (their proofs do not use them: `Lemmas/ServiceOnce.lean`, `Lemmas/ParamOnce.lean`).
-/
import GontainerModel.Lemmas.DepGraph
import GontainerModel.Lemmas.ParamFuel
namespace GM.Graph
variable {α : Type} [DecidableEq α]

/-- number of nodes reachable from `a` -/
def rankOf (g : G α) (a : α) : Nat := (g.nodes.filter fun x => (reachD g a).contains x).length

theorem rank_lt_of_path (g : G α) (hac : cyclic g = false) {a b : α} (p : Path g a b) : rankOf g b < rankOf g a := by
  unfold rankOf
  refine filter_length_lt g.nodes (p := fun x => (reachD g b).contains x) (q := fun x => (reachD g a).contains x) (fun x hx => ?_)
    b (path_end_mem_nodes g p) (contains_reachD.mpr p) (Bool.eq_false_iff.mpr fun h => ?_)
  · exact contains_reachD.mpr (p.trans (contains_reachD.mp hx))
  · exact Bool.false_ne_true (hac.symm.trans ((cyclic_iff_path g).mpr ⟨b, contains_reachD.mp h⟩))

end GM.Graph

namespace GM.Output

theorem Service.mem_allArgs {s : Service} {a : Arg} :
    a ∈ s.allArgs ↔ a ∈ s.args ∨ (∃ c ∈ s.calls, a ∈ c.args) ∨ ∃ f ∈ s.fields, f.value = a := by
  simp only [Service.allArgs, List.mem_append, List.mem_flatMap, List.mem_map, or_assoc]

theorem rank_lt_of_configDep (o : Output) (hac : Graph.cyclic (buildGraph o) = false) {a b : Res} (h : ConfigDep o a b) :
    Graph.rankOf (buildGraph o) b.node < Graph.rankOf (buildGraph o) a.node :=
  Graph.rank_lt_of_path _ hac (path_of_configDep o a b h)

end GM.Output

namespace GM.Runtime
open GM GM.Graph GM.Output

/-- every reference the runtime follows is a recorded dependency -/
def ParamDepsRecorded (p : Prog) : Prop := ∀ prm ∈ p.out.params, ∀ n ∈ refsOf p prm.raw, n ∈ prm.dependsOn

/-- an acyclic compiled graph ranks the parameters: the hypothesis of the termination theorem (C07) -/
theorem ranked_of_acyclic (p : Prog) (hac : cyclic (buildGraph p.out) = false) (hd : ParamDepsRecorded p) :
    Ranked p (fun n => rankOf (buildGraph p.out) (nParam n)) :=
  -- `(… :)`: the lemma speaks of `(Res.param n).node`, the goal of `nParam n`, equal by unfolding `Res.node`. Elaborated on its own
  -- the term meets the goal that way; against the expected type the unifier unfolds `rankOf` and `buildGraph` and does not finish.
  fun prm hprm n hn _ => (rank_lt_of_configDep p.out hac (.param hprm (hd prm hprm n hn)) :)

/-- the resolver of the chain that takes the argument: what `resolveArg` dispatches on -/
def argKind (a : Output.Arg) : Option Compile.Resolver := Compile.argChain.find? (Compile.supports · a.raw)

/-- `n` carries `tag` -/
def IsCarrier (p : Prog) (tag n : String) : Prop :=
  ∃ s ∈ p.out.services, s.name = n ∧ (s.tags.find? (·.name == tag)).isSome = true

/-- the service an argument makes the runtime fetch -/
def ArgDep (p : Prog) (a : Output.Arg) (d : String) : Prop :=
  (argKind a = some .service ∧ d = a.depServices.headD "") ∨
  (argKind a = some .tagged ∧ IsCarrier p (a.depTags.headD "") d)

/-- direct dependencies of a service: its arguments, fields, calls, and the arguments of every decorator attached to a
tag it carries -/
def SvcDep (p : Prog) (s : Output.Service) (d : String) : Prop :=
  (∃ a ∈ s.args, ArgDep p a d) ∨ (∃ fl ∈ s.fields, ArgDep p fl.value d) ∨
  (∃ c ∈ s.calls, ∃ a ∈ c.args, ArgDep p a d) ∨
  (∃ dc ∈ p.out.decorators, s.tags.any (·.name == dc.tag) = true ∧ ∃ a ∈ dc.args, ArgDep p a d)

/-- `rk` decreases along every direct dependency (the service graph is acyclic) -/
def SRanked (p : Prog) (rk : String → Nat) : Prop :=
  ∀ s ∈ p.out.services, ∀ d, SvcDep p s d → rk d < rk s.name

/-- the list whose head the runtime fetches (`resolveArg`: `headD ""`) is not empty -/
def ArgWF (a : Output.Arg) : Prop :=
  (argKind a = some .service → a.depServices ≠ []) ∧ (argKind a = some .tagged → a.depTags ≠ [])

/-- hypothesis of the theorems that need `SvcDep ⊆ ConfigDep`; it holds of what the compiler produces (`compiled_recorded`) -/
def ArgsRecorded (p : Prog) : Prop :=
  (∀ s ∈ p.out.services, ∀ a ∈ s.allArgs, ArgWF a) ∧ (∀ d ∈ p.out.decorators, ∀ a ∈ d.args, ArgWF a)

theorem IsCarrier.carries {p : Prog} {t n : String} (h : IsCarrier p t n) : carries p.out n t := by
  obtain ⟨s, hs, hn, hf⟩ := h
  obtain ⟨tg, hfind⟩ := Option.isSome_iff_exists.mp hf
  obtain ⟨hm, hname⟩ := find?_name_eq_some hfind
  exact ⟨s, hs, hn, tg, hm, hname⟩

theorem argsDep_of_argDep (p : Prog) (args : List Output.Arg) (a : Output.Arg) (ha : a ∈ args) (hwf : ArgWF a) (d : String)
    (h : ArgDep p a d) : Output.ArgsDep p.out args (.service d) := by
  rcases h with ⟨hk, rfl⟩ | ⟨hk, hc⟩
  · exact .inl (List.mem_flatMap.mpr ⟨a, ha, headD_mem (hwf.1 hk)⟩)
  · exact .inr ⟨_, List.mem_flatMap.mpr ⟨a, ha, headD_mem (hwf.2 hk)⟩, hc.carries⟩

theorem configDep_of_svcDep (p : Prog) (hw : ArgsRecorded p) {s : Output.Service} (hs : s ∈ p.out.services) {d : String}
    (hd : SvcDep p s d) : ConfigDep p.out (.service s.name) (.service d) := by
  have own : ∀ a ∈ s.allArgs, ArgDep p a d → ConfigDep p.out (.service s.name) (.service d) :=
    fun a hm h => .own hs (argsDep_of_argDep p _ a hm (hw.1 s hs a hm) d h)
  rcases hd with ⟨a, ha, h⟩ | ⟨fl, hfl, h⟩ | ⟨c, hc, a, ha, h⟩ | ⟨dc, hdc, hcar, a, ha, h⟩
  · exact own a (Service.mem_allArgs.mpr (.inl ha)) h
  · exact own _ (Service.mem_allArgs.mpr (.inr (.inr ⟨fl, hfl, rfl⟩))) h
  · exact own a (Service.mem_allArgs.mpr (.inr (.inl ⟨c, hc, ha⟩))) h
  · obtain ⟨tg, htg, hname⟩ := List.any_eq_true.mp hcar
    obtain ⟨i, hi⟩ := exists_mem_zipIdx hdc
    exact .dec hs htg hi (eq_of_beq hname).symm (argsDep_of_argDep p _ a ha (hw.2 dc hdc a ha) d h)

theorem sranked_of_acyclic (p : Prog) (hac : cyclic (buildGraph p.out) = false) (hw : ArgsRecorded p) :
    SRanked p (fun n => rankOf (buildGraph p.out) (nService n)) :=
  -- `(… :)` as in `ranked_of_acyclic`, with `(Res.service n).node` and `nService n`
  fun _ hs _ hd => (rank_lt_of_configDep p.out hac (configDep_of_svcDep p hw hs hd) :)

end GM.Runtime
