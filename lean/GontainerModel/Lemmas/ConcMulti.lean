/-
The invariant `MInv` of the protocol for all ids and caches. Each of the seven rules touches one (cache, id) pair and the
lock of that id, so preservation is proved once, for such a change (`MInv.of_local`).
-/
import GontainerModel.Model.RuntimeConcMulti
namespace GM.RuntimeConcMulti

/-- every successful construction is published in its cache or about to be; nobody constructs for a filled cache entry;
every owned serial was allocated; no serial is owned twice -/
structure MInv (s : S) : Prop where
  count : ∀ c i, s.successes c i = (if (s.cache c i).isSome then 1 else 0) + (if (pendingSerial s c i).isSome then 1 else 0)
  quiet : ∀ c i, inFlight s c i = true → s.cache c i = none
  alloc : ∀ c i n, owned s c i = some n → n < s.next
  inj : ∀ c i c' i' n, owned s c i = some n → owned s c' i' = some n → c = c' ∧ i = i'

theorem inv_init : MInv {} :=
  ⟨fun _ _ => by simp [pendingSerial], fun _ _ h => by simp [inFlight] at h,
   fun _ _ _ h => by simp [owned, pendingSerial] at h, fun _ _ _ _ _ h => by simp [owned, pendingSerial] at h⟩

theorem upd_ne {β : Type} {f : Nat → β} {k x : Nat} {v : β} (h : x ≠ k) : upd f k v x = f x := if_neg h
theorem upd_eq {β : Type} {f : Nat → β} {k : Nat} {v : β} : upd f k v k = v := if_pos rfl

theorem upd2_eq {β : Type} {f : Nat → Nat → β} {a b : Nat} {v : β} : upd2 f a b v a b = v := if_pos ⟨rfl, rfl⟩
theorem upd2_ne {β : Type} {f : Nat → Nat → β} {a b x y : Nat} {v : β} (h : ¬ (x = a ∧ y = b)) : upd2 f a b v x y = f x y :=
  if_neg h

/-- the lock of `i` is free or held on behalf of cache `c` -/
def HeldFor (s : S) (c : Cache) (i : Id) : Prop := s.crit i = none ∨ ∃ t ph, s.crit i = some (t, c, ph)

theorem HeldFor.other {s : S} {c : Cache} {i : Id} (h : HeldFor s c i) {c' : Cache} (hne : c' ≠ c) :
    pendingSerial s c' i = none ∧ inFlight s c' i = false := by
  have hne' : ¬ c = c' := fun e => hne e.symm
  rcases h with h | ⟨t, ph, h⟩
  · simp [pendingSerial, inFlight, h]
  · rcases ph with _ | _ | _ | n <;> simp [pendingSerial, inFlight, h, hne']

/-- `s'` differs from `s` only in the lock of `i`, held for `c` before and after, and in the cache entry and success count of
`(c, i)`: then the invariant need only be shown again at `(c, i)`, with `own` for what `alloc` and `inj` say there -/
theorem MInv.of_local {s s' : S} (h : MInv s) (c : Cache) (i : Id)
    (crit : ∀ j, j ≠ i → s'.crit j = s.crit j) (before : HeldFor s c i) (after : HeldFor s' c i)
    (cache : ∀ c' j, ¬ (c' = c ∧ j = i) → s'.cache c' j = s.cache c' j)
    (succ : ∀ c' j, ¬ (c' = c ∧ j = i) → s'.successes c' j = s.successes c' j)
    (next : s.next ≤ s'.next)
    (count : s'.successes c i = (if (s'.cache c i).isSome then 1 else 0) + (if (pendingSerial s' c i).isSome then 1 else 0))
    (quiet : inFlight s' c i = true → s'.cache c i = none)
    (own : ∀ n, owned s' c i = some n → owned s c i = some n ∨ (s.next ≤ n ∧ n < s'.next)) : MInv s' := by
  have frame : ∀ c' j, ¬ (c' = c ∧ j = i) →
      pendingSerial s' c' j = pendingSerial s c' j ∧ inFlight s' c' j = inFlight s c' j := by
    intro c' j hk
    by_cases hj : j = i
    · subst hj
      have hne : c' ≠ c := fun e => hk ⟨e, rfl⟩
      rw [(before.other hne).1, (before.other hne).2, (after.other hne).1, (after.other hne).2]
      exact ⟨rfl, rfl⟩
    · exact ⟨by simp only [pendingSerial, crit j hj], by simp only [inFlight, crit j hj]⟩
  have back : ∀ c' j n, owned s' c' j = some n →
      owned s c' j = some n ∨ (c' = c ∧ j = i ∧ s.next ≤ n ∧ n < s'.next) := by
    intro c' j n ho
    by_cases hk : c' = c ∧ j = i
    · obtain ⟨rfl, rfl⟩ := hk
      exact (own n ho).imp id fun hn => ⟨rfl, rfl, hn⟩
    · rw [owned, (frame c' j hk).1, cache c' j hk] at ho
      exact Or.inl ho
  refine ⟨fun c' j => ?_, fun c' j hfl => ?_, fun c' j n ho => ?_, fun c1 j1 c2 j2 n h1 h2 => ?_⟩
  · by_cases hk : c' = c ∧ j = i
    · rw [hk.1, hk.2]; exact count
    · rw [succ c' j hk, cache c' j hk, (frame c' j hk).1]; exact h.count c' j
  · by_cases hk : c' = c ∧ j = i
    · rw [hk.1, hk.2] at hfl ⊢; exact quiet hfl
    · rw [(frame c' j hk).2] at hfl; rw [cache c' j hk]; exact h.quiet c' j hfl
  · rcases back c' j n ho with o | ⟨_, _, _, hn⟩
    · exact Nat.lt_of_lt_of_le (h.alloc c' j n o) next
    · exact hn
  · rcases back c1 j1 n h1 with o1 | ⟨rfl, rfl, hn1, _⟩ <;> rcases back c2 j2 n h2 with o2 | ⟨rfl, rfl, hn2, _⟩
    · exact h.inj c1 j1 c2 j2 n o1 o2
    · have := h.alloc c1 j1 n o1; omega
    · have := h.alloc c2 j2 n o2; omega
    · exact ⟨rfl, rfl⟩

theorem MInv.of_lock_only {s : S} (h : MInv s) (c : Cache) (i : Id) (v : Option (Nat × Cache × Phase))
    (before : HeldFor s c i) (after : v = none ∨ ∃ t ph, v = some (t, c, ph))
    (pend : pendingSerial { s with crit := upd s.crit i v } c i = pendingSerial s c i)
    (quiet : inFlight { s with crit := upd s.crit i v } c i = true → s.cache c i = none) :
    MInv { s with crit := upd s.crit i v } := by
  refine h.of_local c i (crit := fun j hj => upd_ne hj) (before := before) (after := ?_)
    (cache := fun _ _ _ => rfl) (succ := fun _ _ _ => rfl) (next := Nat.le_refl _)
    (count := ?_) (quiet := quiet) (own := fun n ho => Or.inl ?_)
  · rcases after with rfl | ⟨t, ph, rfl⟩
    · exact Or.inl upd_eq
    · exact Or.inr ⟨t, ph, upd_eq⟩
  · rw [pend]; exact h.count c i
  · simpa only [owned, pend] using ho

theorem inv_step (s s' : S) (h : MInv s) (st : Step s s') : MInv s' := by
  cases st with
  | acquire t c i hc =>
    refine h.of_lock_only c i _ (Or.inl hc) (Or.inr ⟨t, _, rfl⟩) ?_ ?_
    · simp [pendingSerial, upd_eq, hc]
    · intro hfl; simp [inFlight, upd_eq] at hfl
  | hit t c i hc _ | fail t c i hc =>
    refine h.of_lock_only c i _ (Or.inr ⟨t, _, hc⟩) (Or.inl rfl) ?_ ?_
    · simp [pendingSerial, upd_eq, hc]
    · intro hfl; simp [inFlight, upd_eq] at hfl
  | miss t c i hc hcache =>
    refine h.of_lock_only c i _ (Or.inr ⟨t, _, hc⟩) (Or.inr ⟨t, _, rfl⟩) ?_ (fun _ => hcache)
    simp [pendingSerial, upd_eq, hc]
  | constructFail t c i hc =>
    refine h.of_lock_only c i _ (Or.inr ⟨t, _, hc⟩) (Or.inr ⟨t, _, rfl⟩) ?_ (fun _ => h.quiet c i (by simp [inFlight, hc]))
    simp [pendingSerial, upd_eq, hc]
  | constructOk t c i hc =>
    have hq : s.cache c i = none := h.quiet c i (by simp [inFlight, hc])
    refine h.of_local c i (crit := fun j hj => upd_ne hj) (before := Or.inr ⟨t, _, hc⟩) (after := Or.inr ⟨t, _, upd_eq⟩)
      (cache := fun _ _ _ => rfl) (succ := fun c' j hk => upd2_ne hk) (next := Nat.le_succ _)
      (count := ?_) (quiet := fun _ => hq) (own := ?_)
    · -- the entry is empty and nothing was pending; now the count is one more and the fresh serial is pending
      have h0 : s.successes c i = 0 := by simpa [pendingSerial, hc, hq] using h.count c i
      simp [pendingSerial, upd_eq, upd2_eq, hq, h0]
    · -- the serial now pending is the fresh one
      intro n ho
      obtain rfl : s.next = n := by simpa [owned, pendingSerial, upd_eq, hq] using ho
      exact Or.inr ⟨Nat.le_refl _, Nat.lt_succ_self _⟩
  | publish t c i n hc =>
    have hq : s.cache c i = none := h.quiet c i (by simp [inFlight, hc])
    refine h.of_local c i (crit := fun j hj => upd_ne hj) (before := Or.inr ⟨t, _, hc⟩) (after := Or.inl upd_eq)
      (cache := fun c' j hk => upd2_ne hk) (succ := fun _ _ _ => rfl) (next := Nat.le_refl _)
      (count := ?_) (quiet := ?_) (own := ?_)
    · simpa [pendingSerial, upd_eq, upd2_eq, hc, hq] using h.count c i
    · intro hfl; simp [inFlight, upd_eq] at hfl
    · -- the pending serial moved into the cache
      intro m ho
      exact Or.inl (by simpa [owned, pendingSerial, upd_eq, upd2_eq, hc, hq] using ho)

theorem inFlight_of_pending {s : S} {c : Cache} {i : Id} (h : (pendingSerial s c i).isSome) : inFlight s c i = true := by
  cases hcr : s.crit i with
  | none => simp [pendingSerial, hcr] at h
  | some x =>
    obtain ⟨t, c', ph⟩ := x
    -- only a thread that has built an instance for this very cache holds a pending serial
    match ph with
    | .built (some n) =>
      have hcc : c' = c := by simpa [pendingSerial, hcr] using h
      simp [inFlight, hcr, hcc]
    | .built none | .locked | .constructing => simp [pendingSerial, hcr] at h

theorem MInv.successes_le_one {s : S} (h : MInv s) (c : Cache) (i : Id) : s.successes c i ≤ 1 := by
  rw [h.count c i]
  cases hp : pendingSerial s c i with
  | none => split <;> simp
  | some n => rw [h.quiet c i (inFlight_of_pending (by rw [hp]; rfl))]; simp

end GM.RuntimeConcMulti
