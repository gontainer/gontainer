/-
Doubling every `%` is undone by evaluation. Run on an escaped string, the chunker is closed between any two characters of the
source and cuts it into chunks that are `%%` or `%`-free (`EscInv`); such a chunk becomes a literal token whatever functions
are registered; literal tokens evaluate to the concatenation of their texts.
-/
import GontainerModel.Lemmas.Chunk
import GontainerModel.Lemmas.TokenClass
import GontainerModel.Lemmas.SimpleFn
namespace GM.Token

theorem find_call_none (fns : List FnDef) {chunk : String} (h : simpleFnCaps chunk = none) :
    fns.reverse.find? (isCallOf · chunk) = none :=
  List.find?_eq_none.mpr fun d _ => by simp [isCallOf, supports, h]

theorem classify_percent (fns : List FnDef) : classify fns "%%" = .percentMark := by
  -- `expr "%%"` evaluates to `some []`, so `simpleFnCaps "%%"` is `captures Rx.simpleFn []`, and `parseSimpleFn []` evaluates to `none`
  rw [classify, find_call_none fns (chunk := "%%") (Grammar.captures_simpleFn [])]
  rfl

theorem classify_of_expr_none (fns : List FnDef) {chunk : String} (h : expr chunk = none) :
    classify fns chunk = .string := by
  have hcaps : simpleFnCaps chunk = none := by rw [simpleFnCaps, h]
  have hpp : chunk ≠ "%%" := by rintro rfl; revert h; decide
  -- every test in front of `.string` is `chunk == "%%"` or looks at `expr chunk`
  have href : supports .reference chunk = false := by rw [supports, h]
  have hfn : supports .unexpectedFunction chunk = false := by rw [supports, hcaps]; rfl
  have htok : supports .unexpectedToken chunk = false := by rw [supports, h]; rfl
  rw [classify, find_call_none fns hcaps]
  dsimp only
  rw [if_neg (fun e => hpp (eq_of_beq e)), href, hfn, htok]
  rfl

end GM.Token

namespace GM.Escape
open GM GM.Chunk GM.Token

def escape (s : List Char) : List Char := s.flatMap fun c => if c = '%' then ['%', '%'] else [c]

/-- what a chunk of an escaped string stands for -/
def unescChunk (c : List Char) : List Char := if c = ['%', '%'] then ['%'] else c
def unesc (cs : List (List Char)) : List Char := cs.flatMap unescChunk

/-- a chunk as produced from an escaped string: `%%` or `%`-free -/
def EscChunk (c : List Char) : Prop := c = ['%', '%'] ∨ '%' ∉ c

theorem unescChunk_free {c : List Char} (h : '%' ∉ c) : unescChunk c = c :=
  if_neg (by rintro rfl; exact h List.mem_cons_self)

theorem unesc_flush (r : List (List Char)) {b : List Char} (h : '%' ∉ b) :
    unesc (if b = [] then r else r ++ [b]) = unesc r ++ b := by
  split
  · simp [*]
  · simp [unesc, unescChunk_free h]

theorem escChunk_flush {r : List (List Char)} {b : List Char} (hr : ∀ c ∈ r, EscChunk c) (hb : '%' ∉ b) :
    ∀ c ∈ (if b = [] then r else r ++ [b]), EscChunk c :=
  fun c hc => (mem_flush.mp hc).elim (hr c) fun h => .inr (h.1 ▸ hb)

/-- the chunker's state between two characters of the source, of which `s` has been read: closed, the finished chunks are
`%%` or `%`-free, and un-escaping what has been produced gives `s` back -/
structure EscInv (st : St) (s : List Char) : Prop where
  closed : st.opened = false
  buff : '%' ∉ st.buff
  chunks : ∀ c ∈ st.r, EscChunk c
  unesc : unesc st.r ++ st.buff = s

theorem escInv_step (st : St) (s : List Char) (c : Char) (h : EscInv st s) :
    EscInv ((if c = '%' then ['%', '%'] else [c]).foldl step st) (s ++ [c]) := by
  obtain ⟨r, o, b⟩ := st
  obtain ⟨ho, hb, hr, hu⟩ := h
  dsimp only at ho hb hr hu
  subst ho
  by_cases hc : c = '%'
  · -- `%%`: the buffer, if any, is flushed and `%%` is a chunk of its own
    subst hc
    rw [if_pos rfl, List.foldl_cons, List.foldl_cons, List.foldl_nil, step_open, step_close]
    refine { closed := rfl, buff := List.not_mem_nil, chunks := fun c' hc' => ?_, unesc := ?_ }
    · exact (List.mem_append.mp hc').elim (escChunk_flush hr hb c') fun h => .inl (List.mem_singleton.mp h)
    · rw [← hu, List.append_nil, unesc, List.flatMap_append, ← unesc, unesc_flush r hb]
      rfl
  · rw [if_neg hc, List.foldl_cons, List.foldl_nil, step_char _ hc]
    exact { closed := rfl, buff := fun h => (List.mem_append.mp h).elim hb (by simp [Ne.symm hc]), chunks := hr,
            unesc := by rw [← hu, List.append_assoc] }

theorem escInv_run (s : List Char) : EscInv ((escape s).foldl step init) s := by
  rw [escape, List.foldl_flatMap]
  exact foldl_inv_read escInv_step s (s := [])
    { closed := rfl, buff := List.not_mem_nil, unesc := rfl, chunks := fun _ h => nomatch h }

theorem chunks_escape (s : List Char) :
    ∃ cs, chunksE (escape s) = .ok cs ∧ (∀ c ∈ cs, EscChunk c) ∧ unesc cs = s := by
  have h := escInv_run s
  by_cases he : escape s = []
  · -- the final state is the initial one, and `h.unesc` says that `s` is empty
    rw [he] at h ⊢
    exact ⟨[[]], rfl, fun c hc => .inr (List.mem_singleton.mp hc ▸ List.not_mem_nil), h.unesc⟩
  · exact ⟨_, (chunksE_of_ne_nil he).trans ((finishE_eq_ok_iff ..).mpr ⟨h.closed, rfl⟩), escChunk_flush h.chunks h.buff,
      by rw [unesc_flush _ h.buff, h.unesc]⟩

theorem create_escaped (fns : List FnDef) (st : Imports.St) {c : List Char} (hc : EscChunk c) :
    ∃ t, (create (classify fns (String.ofList c)) st (String.ofList c)).2 = .ok t ∧
      t.sem = .lit (String.ofList (unescChunk c)) := by
  rcases hc with rfl | hfree
  · have hp : classify fns (String.ofList ['%', '%']) = .percentMark := classify_percent fns
    exact ⟨_, by rw [hp]; rfl, rfl⟩
  · have he : expr (String.ofList c) = none := by rw [expr, String.toList_ofList, toExpr_none_of_free c hfree]
    exact ⟨_, by rw [classify_of_expr_none fns he]; rfl, by rw [unescChunk_free hfree]⟩

theorem tokenize_escaped (fns : List FnDef) (st : Imports.St) {s : String} {cs : List (List Char)}
    (hs : chunksE s.toList = .ok cs) (hcs : ∀ c ∈ cs, EscChunk c) :
    ∃ ts, (tokenize fns st s).2 = .ok ts ∧ ts.map (·.sem) = (cs.map fun c => String.ofList (unescChunk c)).map Sem.lit := by
  obtain ⟨ts, es, hE, hts⟩ := tokenize_emits fns st hs
  have hE' : Emits (fun c zs e => zs.map (·.sem) = [.lit (String.ofList (unescChunk c))] ∧ e = []) cs ts es := by
    refine hE.mono ?_
    rintro c hc _ _ ⟨st, h⟩
    obtain ⟨t', ht', hs⟩ := create_escaped fns st (hcs c hc)
    obtain ⟨t, ht, rfl, rfl⟩ | ⟨m, hm, _⟩ := h
    · cases ht.symm.trans ht'
      exact ⟨congrArg (· :: []) hs, rfl⟩
    · cases hm.symm.trans ht'
  obtain rfl : es = [] := hE'.errs_nil_of_forall fun _ _ _ h => h.2
  exact ⟨ts, hts, (hE'.map_out _ _ fun _ _ _ h => h.1).trans List.map_map.symm⟩

theorem evalTokens_lits (env : Env) (ts : List Token) (ls : List String) (h : ts.map (·.sem) = ls.map Sem.lit) :
    evalTokens env ts = .ok (.str (String.join ls)) := by
  have hm : ts.mapM (evalToken env) = .ok (ls.map Val.str) := by
    induction ts generalizing ls with
    | nil => rw [List.map_eq_nil_iff.mp h.symm]; rfl
    | cons t ts ih =>
      obtain ⟨l, ls, rfl, (hl : _ = t.sem), hls⟩ := List.map_eq_cons_iff.mp h.symm
      rw [List.mapM_cons, ih ls hls.symm, evalToken, ← hl]
      rfl
  unfold evalTokens
  split
  next t =>
    obtain ⟨l, rfl, (hl : _ = t.sem)⟩ := List.map_eq_singleton_iff.mp h.symm
    rw [evalToken, ← hl]
    simp
  next =>
    rw [hm]
    simp [Except.map, Function.comp_def, Val.castToString]

theorem join_unesc (cs : List (List Char)) :
    String.join (cs.map fun c => String.ofList (unescChunk c)) = String.ofList (unesc cs) := by
  rw [← String.toList_inj, String.toList_join, String.toList_ofList, List.flatMap_map]
  simp [unesc]

end GM.Escape
