/-
Non-shared services: every `get` of a service that is created by a constructor and whose scope caches nothing
returns an object allocated during that very call (`FreshIn`: its serial lies between the counter at the start of the call
and the counter at its end) and leaves the caches' entries for that service as they were. `FreshIn` goes through the stages of
`getBody` like any predicate on the object in hand (`getBody_ok`), given that no callback lowers the counter.
-/
import GontainerModel.Lemmas.ServiceOnce
namespace GM.Runtime

/-- an object allocated at or after serial `N` and before the state's next serial -/
def FreshIn (N : Nat) (st : St) : RV → Prop
  | .ref _ n => N ≤ n ∧ n < st.next
  | _ => False

theorem FreshIn.mono {N : Nat} {st st' : St} {v : RV} (h : FreshIn N st v) (hn : st.next ≤ st'.next) : FreshIn N st' v := by
  cases v with
  | ref b n => exact ⟨h.1, Nat.lt_of_lt_of_le h.2 hn⟩
  | _ => exact h

theorem FreshIn.alloc {N : Nat} {st : St} {cur : RV} (h : FreshIn N st cur) (o : Obj) :
    FreshIn N (alloc st o).1 (.ref true (alloc st o).2) := by
  cases cur with
  | ref b n => exact ⟨Nat.le_of_lt (Nat.lt_of_le_of_lt h.1 h.2), Nat.lt_succ_self _⟩
  | _ => exact h.elim

section
variable {ra : RA} {ras : RAS} (hra : ∀ a s b, s.next ≤ (ra s b a).1.next) (hras : ∀ as s b, s.next ≤ (ras s b as).1.next)

include hras in
theorem createObj_fresh {p : Prog} {s : Output.Service} {st s1 : St} {bag b1 : Bag} {obj : RV} (hc : (s.constructor != "") = true)
    (h : createObj ras p s st bag = (s1, b1, .ok obj)) : FreshIn st.next s1 obj := by
  have hm := hras s.args st bag
  unfold createObj at h
  rw [if_pos hc] at h
  generalize ras st bag s.args = r at hm h
  obtain ⟨s2, b2, e | vals⟩ := r
  · cases h
  · simp only at h hm
    by_cases hf : isFixture (symbol p s.constructor) "NewFail" = true
    · rw [if_pos hf] at h; cases h
    · rw [if_neg hf] at h; cases h
      exact ⟨hm, Nat.lt_succ_self _⟩

include hra hras in
theorem getBody_fresh {p : Prog} {s : Output.Service} {sc : Output.Scope} {id : String} {st st' : St} {bag bag' : Bag} {v : RV}
    (hc : (s.constructor != "") = true) (h : getBody ra ras p s sc id st bag = (st', bag', .ok v)) : FreshIn st.next st' v := by
  obtain ⟨s4, b4, hfr, hfin⟩ := getBody_ok (K := fun s _ cur => FreshIn st.next s cur)
    (hheap := fun hk h => h.mono hk) (hnew := fun h => h.alloc _) (hra := fun a s b _ h => h.mono (hra a s b))
    (hras := fun as s b _ h => h.mono (hras as s b)) h (hcr := fun _ _ _ => createObj_fresh hras hc)
  have hn : s4.next = (finishGet sc id v s4 b4).1.next := by cases sc <;> rfl
  rw [hfin] at hn
  exact hfr.mono (Nat.le_of_eq hn)

end

theorem get_nonShared_fresh (p : Prog) (f : Nat) (st : St) (bag : Bag) (id : String) (s : Output.Service) (v : RV) (st' : St)
    (bag' : Bag) (hov : st.ovServices.lookup id = none) (hs : svcByName p id = some s) (hsc : effScope p st id = .nonShared)
    (hc : (s.constructor != "") = true) (hok : get f p st bag id = (st', bag', .ok v)) :
    FreshIn st.next st' v ∧ st'.shared.lookup id = st.shared.lookup id ∧ bag'.lookup id = bag.lookup id := by
  have hS := get_sinv p f st bag id
  rw [hok] at hS
  -- the caches are extended only where the scope says so
  refine ⟨?_, hS.sh.same (by simp [hsc]), hS.bg.same (by simp [hsc])⟩
  cases f with
  | zero => simp [get] at hok
  | succ f =>
    rw [get_declared f bag hov hs, hsc] at hok
    exact getBody_fresh (fun a s b => (resolveArg_sinv p f s b a).nx) (fun as s b => (resolveArgs_sinv p f s b as).nx) hc hok

end GM.Runtime
