/-
The compiler's loops (`resolveArgs`, `compileFields`, `compileCalls`, `compileParams`, `compileServices`,
`compileDecorators`, `Token.tokenize`) are all one kind of fold: an accumulator holds a state that is threaded through (the import
table, a position counter), a list of outputs and a list of errors, and every element appends some outputs and some errors.
`Emits R l ys es` describes the result of such a fold without the accumulator: `ys` and `es` are, in order, what the elements
of `l` emitted, where `R x zs e` says what element `x` may emit. `R` is stated once per loop (with the threaded state quantified
away); order, length, element-wise and error facts about the loop are then read off `Emits`.
-/
import GontainerModel.Lemmas.Basics
namespace GM

inductive Emits {α β ε : Type} (R : α → List β → List ε → Prop) : List α → List β → List ε → Prop
  | nil : Emits R [] [] []
  | cons {x l zs e ys es} : R x zs e → Emits R l ys es → Emits R (x :: l) (zs ++ ys) (e ++ es)

namespace Emits
variable {α β ε : Type} {R : α → List β → List ε → Prop} {l : List α} {ys : List β} {es : List ε}

theorem of_foldl {A : Type} (out : A → List β) (errs : A → List ε) (step : A → α → A)
    (hstep : ∀ acc x, ∃ zs e, R x zs e ∧ out (step acc x) = out acc ++ zs ∧ errs (step acc x) = errs acc ++ e)
    (l : List α) (acc : A) :
    ∃ ys es, Emits R l ys es ∧ out (l.foldl step acc) = out acc ++ ys ∧ errs (l.foldl step acc) = errs acc ++ es := by
  induction l generalizing acc with
  | nil => exact ⟨[], [], .nil, (List.append_nil _).symm, (List.append_nil _).symm⟩
  | cons x l ih =>
    obtain ⟨zs, e, hR, ho, he⟩ := hstep acc x
    obtain ⟨ys, es, hE, ho', he'⟩ := ih (step acc x)
    exact ⟨zs ++ ys, e ++ es, .cons hR hE, by rw [List.foldl_cons, ho', ho, List.append_assoc],
      by rw [List.foldl_cons, he', he, List.append_assoc]⟩

theorem of_foldl_nil {A : Type} (out : A → List β) (errs : A → List ε) (step : A → α → A)
    (hstep : ∀ acc x, ∃ zs e, R x zs e ∧ out (step acc x) = out acc ++ zs ∧ errs (step acc x) = errs acc ++ e)
    (l : List α) (acc : A) (ho : out acc = []) (he : errs acc = []) :
    Emits R l (out (l.foldl step acc)) (errs (l.foldl step acc)) := by
  obtain ⟨ys, es, hE, ho', he'⟩ := of_foldl out errs step hstep l acc
  rw [ho', he', ho, he]
  exact hE

theorem mono {R' : α → List β → List ε → Prop}
    (h : Emits R l ys es) (hR : ∀ x ∈ l, ∀ zs e, R x zs e → R' x zs e) : Emits R' l ys es := by
  induction h with
  | nil => exact .nil
  | cons h _ ih => exact .cons (hR _ List.mem_cons_self _ _ h) (ih fun x hx => hR x (List.mem_cons_of_mem _ hx))

theorem of_errs_nil (h : Emits R l ys es) (he : es = []) : Emits (fun x zs _ => R x zs []) l ys es := by
  induction h with
  | nil => exact .nil
  | cons h _ ih =>
    obtain ⟨rfl, rfl⟩ := List.append_eq_nil_iff.mp he
    exact .cons h (ih rfl)

theorem errs_nil_iff {G : α → Prop} (h : Emits R l ys es) (hR : ∀ x zs e, R x zs e → (e = [] ↔ G x)) :
    es = [] ↔ ∀ x ∈ l, G x := by
  induction h with
  | nil => simp
  | cons h _ ih => rw [List.append_eq_nil_iff, hR _ _ _ h, ih, List.forall_mem_cons]

theorem errs_nil_of_forall (h : Emits R l ys es) (hR : ∀ x zs e, R x zs e → e = []) : es = [] := by
  induction h with
  | nil => rfl
  | cons h _ ih => rw [hR _ _ _ h, ih]; rfl

theorem forall_out {Q : β → Prop} (h : Emits R l ys es) (hR : ∀ x zs e, R x zs e → ∀ y ∈ zs, Q y) : ∀ y ∈ ys, Q y := by
  induction h with
  | nil => intro y hy; cases hy
  | cons h _ ih =>
    intro y hy
    rcases List.mem_append.mp hy with hy | hy
    · exact hR _ _ _ h y hy
    · exact ih y hy

theorem filterMap_out {γ : Type} (f : β → Option γ) (ψ : α → List γ) (h : Emits R l ys es)
    (hR : ∀ x zs e, R x zs e → zs.filterMap f = ψ x) : ys.filterMap f = l.flatMap ψ := by
  induction h with
  | nil => rfl
  | cons h _ ih => rw [List.filterMap_append, hR _ _ _ h, ih, List.flatMap_cons]

theorem map_out {γ : Type} (π : β → γ) (φ : α → γ) (h : Emits R l ys es)
    (hR : ∀ x zs e, R x zs e → zs.map π = [φ x]) : ys.map π = l.map φ := by
  induction h with
  | nil => rfl
  | cons h _ ih => rw [List.map_append, hR _ _ _ h, ih, List.map_cons, List.singleton_append]

theorem pfx {R : α → List β → Errs → Prop} {es : Errs} (p : String) (h : Emits R l ys es)
    (hR : ∀ x zs e, R x zs e → R x zs (Errs.pfx p e)) : Emits R l ys (Errs.pfx p es) := by
  induction h with
  | nil => exact .nil
  | cons h _ ih =>
    unfold Errs.pfx
    rw [List.map_append]
    exact .cons (hR _ _ _ h) ih

end Emits

end GM
