/-
The chunker's loop: one invariant of the state after reading `s` (`Inv`), kept by every step, and what
`chunksE` returns in terms of the final state. The chunk properties of `Props/C03.lean` are read off these two.
-/
import GontainerModel.Model.Chunk
import GontainerModel.Lemmas.Basics
namespace GM

namespace Chunk

theorem step_open (r : List (List Char)) (b : List Char) :
    step ⟨r, false, b⟩ '%' = ⟨if b = [] then r else r ++ [b], true, ['%']⟩ := rfl

theorem step_close (r : List (List Char)) (b : List Char) : step ⟨r, true, b⟩ '%' = ⟨r ++ [b ++ ['%']], false, []⟩ := rfl

theorem step_char (st : St) {c : Char} (h : c ≠ '%') : step st c = { st with buff := st.buff ++ [c] } := if_neg h

/-! The buffer becomes a chunk unless it is empty, when a `%` opens a token (`step`) and at the end (`finishE`). -/

theorem mem_flush {r : List (List Char)} {b c : List Char} :
    c ∈ (if b = [] then r else r ++ [b]) ↔ c ∈ r ∨ (c = b ∧ b ≠ []) := by
  split <;> simp [*]

theorem flatten_flush (r : List (List Char)) (b : List Char) :
    (if b = [] then r else r ++ [b]).flatten = r.flatten ++ b := by
  split <;> simp [*]

/-- a finished chunk: a literal (non-empty, `%`-free) or a `%…%` token with a `%`-free inside -/
def ChunkOk (c : List Char) : Prop :=
  (c ≠ [] ∧ '%' ∉ c) ∨ (∃ x, c = '%' :: x ++ ['%'] ∧ '%' ∉ x)

/-- the state after reading `s`: nothing is lost, `opened` is the parity of the `%` seen, the finished chunks are
well-formed, and the buffer is `%`-free when closed and `%` followed by `%`-free text when opened -/
structure Inv (st : St) (s : List Char) : Prop where
  flatten : st.r.flatten ++ st.buff = s
  opened : st.opened = (s.count '%' % 2 == 1)
  chunks : ∀ c ∈ st.r, ChunkOk c
  buff : if st.opened then ∃ x, st.buff = '%' :: x ∧ '%' ∉ x else '%' ∉ st.buff

/-- `(c == '%') != o` is the flag after `step` on `c`, in each of the three cases of `step` -/
theorem opened_snoc {o : Bool} {s : List Char} (h : o = (s.count '%' % 2 == 1)) (c : Char) :
    ((c == '%') != o) = ((s ++ [c]).count '%' % 2 == 1) := by
  rw [h, List.count_append, List.count_singleton]
  cases c == '%'
  · exact Bool.false_bne _
  · rcases Nat.mod_two_eq_zero_or_one (s.count '%') with e | e <;> rw [Nat.add_mod, e] <;> rfl

theorem step_inv (st : St) (s : List Char) (c : Char) (h : Inv st s) : Inv (step st c) (s ++ [c]) := by
  obtain ⟨r, o, b⟩ := st
  obtain ⟨hf, ho, hr, hb⟩ := h
  dsimp only at hf ho hr
  by_cases hc : c = '%'
  · subst hc
    cases o
    · rw [step_open]
      refine { flatten := by rw [flatten_flush, hf], opened := opened_snoc ho '%', chunks := fun c' hc' => ?_,
               buff := ⟨[], rfl, List.not_mem_nil⟩ }
      rcases mem_flush.mp hc' with hc' | ⟨rfl, hne⟩
      · exact hr c' hc'
      · exact .inl ⟨hne, hb⟩
    · rw [step_close]
      obtain ⟨x, rfl, hx⟩ := hb
      refine { flatten := by rw [← hf]; simp, opened := opened_snoc ho '%', chunks := fun c' hc' => ?_,
               buff := List.not_mem_nil }
      rcases List.mem_append.mp hc' with hc' | hc'
      · exact hr c' hc'
      · exact .inr ⟨x, List.mem_singleton.mp hc', hx⟩
  · rw [step_char _ hc]
    refine { flatten := by rw [← hf]; simp, opened := by rw [← opened_snoc ho c, beq_false_of_ne hc, Bool.false_bne],
             chunks := hr, buff := ?_ }
    have hne : ¬'%' = c := fun e => hc e.symm
    cases o
    · exact fun h => (List.mem_append.mp h).elim hb (by simp [hne])
    · obtain ⟨x, rfl, hx⟩ := hb
      exact ⟨x ++ [c], rfl, by simp [hx, hne]⟩

theorem run_inv (s : List Char) : Inv (s.foldl step init) s :=
  foldl_inv_read step_inv s (s := [])
    { flatten := rfl, opened := rfl, buff := List.not_mem_nil, chunks := fun _ h => nomatch h }

theorem chunksE_of_ne_nil {s : List Char} (hs : s ≠ []) : chunksE s = finishE (s.foldl step init) := if_neg hs

theorem finishE_eq_ok_iff (st : St) (cs : List (List Char)) :
    finishE st = .ok cs ↔ st.opened = false ∧ cs = if st.buff = [] then st.r else st.r ++ [st.buff] := by
  rw [finishE]
  cases st.opened with
  | false => exact ⟨fun h => ⟨rfl, (Except.ok.inj h).symm⟩, fun h => h.2 ▸ rfl⟩
  | true => exact ⟨(fun h => nomatch h), fun h => nomatch h.1⟩

theorem chunks_eq_some_iff (s : List Char) (cs : List (List Char)) :
    chunks s = some cs ↔ chunksE s = .ok cs := by
  unfold chunks
  cases chunksE s with
  | ok cs' => exact ⟨fun h => Option.some.inj h ▸ rfl, fun h => Except.ok.inj h ▸ rfl⟩
  | error e => exact ⟨(fun h => nomatch h), fun h => nomatch h⟩

theorem toExpr_none_of_free : ∀ (c : List Char), '%' ∉ c → toExpr c = none
  | [], _ => rfl
  | [_], _ => rfl
  | _ :: _ :: _, h => if_neg (by rintro ⟨rfl, _⟩; exact h List.mem_cons_self)

end Chunk
end GM
