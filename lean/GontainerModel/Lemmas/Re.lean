/-
The denotation `Lang`: one inversion lemma per constructor, induction over the iterations of a
star, what a word with a given first character needs to be in a concatenation or a star; from these,
that the derivative matcher decides `Lang`.
-/
import GontainerModel.Model.Re
namespace GM.Re

theorem lang_empty_iff (w : List Char) : Lang empty w ↔ False :=
  ⟨fun h => (by cases h), False.elim⟩

theorem lang_eps_iff (w : List Char) : Lang eps w ↔ w = [] :=
  ⟨fun h => (by cases h; rfl), fun h => h ▸ Lang.eps⟩

theorem lang_cls_iff (k : Cls) (w : List Char) : Lang (cls k) w ↔ ∃ c, w = [c] ∧ k.mem c = true :=
  ⟨fun h => (by cases h with | @cls _ c hc => exact ⟨c, rfl, hc⟩), by rintro ⟨_, rfl, hc⟩; exact Lang.cls hc⟩

theorem lang_any_iff (w : List Char) : Lang anyNotNL w ↔ ∃ c, w = [c] ∧ c ≠ '\n' :=
  ⟨fun h => (by cases h with | @any c hc => exact ⟨c, rfl, hc⟩), by rintro ⟨_, rfl, hc⟩; exact Lang.any hc⟩

theorem lang_cat_iff (r s : Re) (w : List Char) :
    Lang (cat r s) w ↔ ∃ x y, w = x ++ y ∧ Lang r x ∧ Lang s y :=
  ⟨fun h => (by cases h with | @cat _ _ x y h1 h2 => exact ⟨x, y, rfl, h1, h2⟩),
   by rintro ⟨_, _, rfl, h1, h2⟩; exact Lang.cat h1 h2⟩

theorem lang_alt_iff (r s : Re) (w : List Char) : Lang (alt r s) w ↔ Lang r w ∨ Lang s w :=
  ⟨fun h => (by cases h with | altL h => exact Or.inl h | altR h => exact Or.inr h),
   fun h => h.elim Lang.altL Lang.altR⟩

theorem lang_group_iff (n : String) (r : Re) (w : List Char) : Lang (group n r) w ↔ Lang r w :=
  ⟨fun h => (by cases h; assumption), Lang.group⟩

theorem star_induction {r : Re} {P : List Char → Prop} (nil : P [])
    (cons : ∀ x y, Lang r x → Lang (star r) y → P y → P (x ++ y)) {w : List Char} (h : Lang (star r) w) : P w := by
  generalize hs : star r = s at h
  induction h with
  | starNil => exact nil
  | starCons h1 h2 _ ih2 => cases hs; exact cons _ _ h1 h2 (ih2 rfl)
  | _ => cases hs

theorem lang_cls_cons_iff (k : Cls) (c : Char) (w : List Char) : Lang (cls k) (c :: w) ↔ w = [] ∧ k.mem c = true :=
  ⟨fun h => (by cases h with | cls hc => exact ⟨rfl, hc⟩), by rintro ⟨rfl, hc⟩; exact Lang.cls hc⟩

theorem lang_any_cons_iff (c : Char) (w : List Char) : Lang anyNotNL (c :: w) ↔ w = [] ∧ c ≠ '\n' :=
  ⟨fun h => (by cases h with | any hc => exact ⟨rfl, hc⟩), by rintro ⟨rfl, hc⟩; exact Lang.any hc⟩

theorem lang_cat_cons_iff (r s : Re) (c : Char) (w : List Char) :
    Lang (cat r s) (c :: w) ↔ (Lang r [] ∧ Lang s (c :: w)) ∨ ∃ x y, w = x ++ y ∧ Lang r (c :: x) ∧ Lang s y := by
  rw [lang_cat_iff]
  constructor
  · rintro ⟨x, y, hw, hx, hy⟩
    rcases List.cons_eq_append_iff.mp hw with ⟨rfl, rfl⟩ | ⟨x', rfl, rfl⟩
    · exact Or.inl ⟨hx, hy⟩
    · exact Or.inr ⟨x', y, rfl, hx, hy⟩
  · rintro (⟨h1, h2⟩ | ⟨x, y, rfl, hx, hy⟩)
    · exact ⟨[], _, rfl, h1, h2⟩
    · exact ⟨c :: x, y, rfl, hx, hy⟩

theorem lang_star_cons_iff (r : Re) (c : Char) (w : List Char) :
    Lang (star r) (c :: w) ↔ ∃ x y, w = x ++ y ∧ Lang r (c :: x) ∧ Lang (star r) y := by
  refine ⟨fun h => ?_, by rintro ⟨x, y, rfl, h1, h2⟩; exact Lang.starCons (x := c :: x) h1 h2⟩
  refine star_induction (P := fun z => z = c :: w → _) (fun hz => nomatch hz) (fun x y h1 h2 ih hz => ?_) h rfl
  rcases List.append_eq_cons_iff.mp hz with ⟨rfl, hy⟩ | ⟨x', rfl, rfl⟩
  -- an iteration that took nothing is skipped: the first one that takes anything takes `c`
  · exact ih hy
  · exact ⟨x', y, rfl, h1, h2⟩

theorem nullable_iff (r : Re) : nullable r = true ↔ Lang r [] := by
  induction r with
  | empty | cls _ | anyNotNL => exact ⟨Bool.noConfusion, fun h => by cases h⟩
  | eps => exact ⟨fun _ => Lang.eps, fun _ => rfl⟩
  | cat r s ihr ihs =>
    rw [nullable, Bool.and_eq_true, ihr, ihs, lang_cat_iff]
    exact ⟨fun ⟨h1, h2⟩ => ⟨[], [], rfl, h1, h2⟩, fun ⟨x, y, hxy, h1, h2⟩ => by
      obtain ⟨rfl, rfl⟩ := List.append_eq_nil_iff.mp hxy.symm
      exact ⟨h1, h2⟩⟩
  | alt r s ihr ihs => rw [nullable, Bool.or_eq_true, ihr, ihs, lang_alt_iff]
  | star r _ => exact ⟨fun _ => Lang.starNil, fun _ => rfl⟩
  | group n r ih => rw [nullable, ih, lang_group_iff]

theorem deriv_iff (r : Re) (c : Char) (w : List Char) : Lang (deriv r c) w ↔ Lang r (c :: w) := by
  induction r generalizing w with
  | empty | eps => exact ⟨fun h => (by cases h), fun h => by cases h⟩
  | cls k =>
    rw [deriv, lang_cls_cons_iff]
    cases k.mem c with
    | false => rw [if_neg Bool.false_ne_true, lang_empty_iff]; exact ⟨False.elim, fun h => Bool.noConfusion h.2⟩
    | true => rw [if_pos rfl, lang_eps_iff]; exact ⟨fun h => ⟨h, rfl⟩, fun h => h.1⟩
  | anyNotNL =>
    rw [deriv, lang_any_cons_iff]
    by_cases h : c = '\n'
    · rw [if_neg (by rw [h]; decide), lang_empty_iff]; exact ⟨False.elim, fun h' => h'.2 h⟩
    · rw [if_pos (bne_iff_ne.mpr h), lang_eps_iff]; exact ⟨fun e => ⟨e, h⟩, fun h' => h'.1⟩
  | cat r s ihr ihs =>
    have hcat : ∀ w, Lang (cat (deriv r c) s) w ↔ ∃ x y, w = x ++ y ∧ Lang r (c :: x) ∧ Lang s y := by
      intro w; simp only [lang_cat_iff, ihr]
    rw [lang_cat_cons_iff, ← nullable_iff, ← hcat, ← ihs, deriv]
    cases nullable r
    · simp only [Bool.false_eq_true, if_false, false_and, false_or]
    · simp only [if_true, true_and, lang_alt_iff, Or.comm]
  | alt r s ihr ihs => simp only [deriv, lang_alt_iff, ihr, ihs]
  | star r ih => simp only [deriv, lang_star_cons_iff, lang_cat_iff, ih]
  | group n r ih => simp only [deriv, lang_group_iff, ih]
/-- the derivative matcher decides the language of any expression (C11 `matcher_exact`) -/
theorem accepts_iff (r : Re) (w : List Char) : accepts r w = true ↔ Lang r w := by
  induction w generalizing r with
  | nil => simp [accepts, nullable_iff]
  | cons c w ih => simp [accepts, ih, deriv_iff]

end GM.Re
