/-
The two token languages (Go identifier, YAML name). The tail of a YAML name, of an import path and of a dotted identifier
are read the same way, unit by unit with one character of look-ahead: `recognises_units`.
-/
import GontainerModel.Model.Grammar
import GontainerModel.Lemmas.Recognises
namespace GM.Grammar
open GM GM.Re

theorem recognises_goToken : Recognises Rx.goToken goToken :=
  Recognises.cls_cat (lang_star_cls_iff Rx.identTail) Rx.letter rfl fun _ _ => rfl

/-- A recogniser `G` that reads a word unit by unit, a unit being a `body` character or a `sep` character followed by a
`first` character, decides a language `L` that is closed under the same two steps. -/
theorem recognises_units {L : List Char → Prop} {G : List Char → Bool} {sep first body : Char → Bool}
    (sub : ∀ b, first b = true → body b = true) (Lnil : L [])
    (Lcons : ∀ a t, L (a :: t) ↔ (body a = true ∧ L t) ∨ (sep a = true ∧ ∃ b t', t = b :: t' ∧ first b = true ∧ L t'))
    (Gnil : G [] = true)
    (Gcons : ∀ a t, G (a :: t) = if body a then G t else if sep a then (match t with
      | b :: t' => first b && G t'
      | [] => false) else false) (w : List Char) : L w ↔ G w = true := by
  -- proved along with it: the same for the words that complete a `sep` unit
  suffices h : (L w ↔ G w = true) ∧ ((∃ b t', w = b :: t' ∧ first b = true ∧ L t') ↔ (match w with
      | b :: t' => first b && G t'
      | [] => false) = true) from h.1
  induction w with
  | nil => exact ⟨iff_of_true Lnil Gnil, iff_of_false (by rintro ⟨_, _, ⟨⟩, _⟩) Bool.false_ne_true⟩
  | cons a t ih =>
    constructor
    · rw [Lcons, Gcons, ih.1, ih.2]
      cases body a
      · cases sep a <;> simp
      · -- `G` does not try a `sep` unit after a `body` character: the unit's two characters are `body` characters too
        refine ⟨fun h => h.elim (·.2) fun h => ?_, fun h => Or.inl ⟨rfl, h⟩⟩
        cases t with
        | nil => exact nomatch h.2
        | cons b t' =>
          have h := Bool.and_eq_true _ _ ▸ h.2
          rw [Gcons, if_pos (sub b h.1)]
          exact h.2
    · show _ ↔ (first a && G t) = true
      rw [Bool.and_eq_true, ← ih.1]
      constructor
      · rintro ⟨_, _, ⟨⟩, h⟩
        exact h
      · exact fun h => ⟨a, t, rfl, h⟩

theorem lang_sepUnits_cons_iff (S B : Cls) (a : Char) (t : List Char) :
    Lang (star (cat (opt (cls S)) (cls B))) (a :: t) ↔
      (B.mem a = true ∧ Lang (star (cat (opt (cls S)) (cls B))) t) ∨
        (S.mem a = true ∧ ∃ b t', t = b :: t' ∧ B.mem b = true ∧ Lang (star (cat (opt (cls S)) (cls B))) t') := by
  simp only [lang_star_cons_iff, lang_optcat_iff, lang_cls_cat_iff, lang_cls_iff]
  constructor
  · rintro ⟨x, y, rfl, ⟨_, ⟨⟩, hb⟩ | ⟨_, _, ⟨⟩, ha, b, rfl, hb⟩, hy⟩
    · exact Or.inl ⟨hb, hy⟩
    · exact Or.inr ⟨ha, b, y, rfl, hb, hy⟩
  · rintro (⟨hB, ht⟩ | ⟨hS, b, t', rfl, hb, ht'⟩)
    · exact ⟨[], t, rfl, Or.inl ⟨a, rfl, hB⟩, ht⟩
    · exact ⟨[b], t', rfl, Or.inr ⟨a, [b], rfl, hS, b, rfl, hb⟩, ht'⟩

theorem recognises_sepTail (S B : Cls) : Recognises (star (cat (opt (cls S)) (cls B))) (sepTail S.mem B.mem) :=
  recognises_units (fun _ h => h) Lang.starNil (lang_sepUnits_cons_iff S B) rfl fun _ t => by cases t <;> rfl

theorem recognises_yamlToken : Recognises Rx.yamlToken yamlToken :=
  Recognises.cls_cat (P := yamlTail)
    (recognises_units (fun _ h => h) Lang.starNil (lang_sepUnits_cons_iff Rx.yamlSep Rx.alnum) rfl fun _ t => by cases t <;> rfl)
    Rx.letter rfl fun _ _ => rfl

end GM.Grammar
