/-
Facts about lists, association lists with string keys and prefixed error lists that several regions of the
development use and core does not provide.
-/
import GontainerModel.Model.Basic
namespace GM

theorem foldl_inv {α β : Type} (I : β → Prop) (l : List α) {step : β → α → β} (b : β) (hb : I b)
    (hstep : ∀ acc, ∀ a ∈ l, I acc → I (step acc a)) : I (l.foldl step b) := by
  induction l generalizing b with
  | nil => exact hb
  | cons a t ih =>
    simp only [List.foldl_cons]
    exact ih _ (hstep b a (List.mem_cons_self ..) hb) (fun acc x hx => hstep acc x (List.mem_cons_of_mem _ hx))

theorem foldl_inv_eq {α β : Type} {I : β → Prop} {l : List α} {step : β → α → β} {b r : β} (h : l.foldl step b = r) (hb : I b)
    (hstep : ∀ acc a, I acc → I (step acc a)) : I r :=
  h ▸ foldl_inv I l b hb fun acc a _ => hstep acc a

/-- an invariant that relates the state of a fold to the input read so far -/
theorem foldl_inv_read {α β : Type} {I : β → List α → Prop} {step : β → α → β}
    (hstep : ∀ b s a, I b s → I (step b a) (s ++ [a])) (l : List α) {b : β} {s : List α} (h : I b s) :
    I (l.foldl step b) (s ++ l) := by
  induction l generalizing b s with
  | nil => rwa [List.append_nil]
  | cons a l ih => rw [List.append_cons]; exact ih (hstep b s a h)

theorem foldl_append_flatMap {α β γ : Type} (π : β → List γ) (f : α → List γ) {step : β → α → β}
    (h : ∀ b a, π (step b a) = π b ++ f a) (l : List α) (b : β) : π (l.foldl step b) = π b ++ l.flatMap f := by
  induction l generalizing b with
  | nil => simp
  | cons a l ih => rw [List.foldl_cons, ih, h, List.flatMap_cons, List.append_assoc]

theorem foldl_congr_mem {α β : Type} (l : List α) (f g : β → α → β) (b : β)
    (h : ∀ acc, ∀ a ∈ l, f acc a = g acc a) : l.foldl f b = l.foldl g b := by
  induction l generalizing b with
  | nil => rfl
  | cons a t ih =>
    simp only [List.foldl_cons]
    rw [h b a (List.mem_cons_self ..)]
    exact ih _ (fun acc x hx => h acc x (List.mem_cons_of_mem _ hx))

/-- a fold observed through `π`: if a step's observation depends only on the observation before it, and the elements outside
`keep` leave the observation alone, the fold may skip them -/
theorem foldl_filter_of_proj {A B α : Type} (π : A → B) (step : A → α → A) (keep : α → Bool)
    (hcongr : ∀ a a' x, π a = π a' → π (step a x) = π (step a' x))
    (hskip : ∀ a x, keep x = false → π (step a x) = π a) (l : List α) (a a' : A) (h : π a = π a') :
    π (l.foldl step a) = π ((l.filter keep).foldl step a') := by
  induction l generalizing a a' with
  | nil => exact h
  | cons x t ih =>
    rw [List.foldl_cons, List.filter_cons]
    cases hk : keep x
    · exact ih _ _ ((hskip a x hk).trans h)
    · exact ih _ _ (hcongr a a' x h)

theorem find?_cons_ite {α : Type} (p : α → Bool) (a : α) (l : List α) :
    (a :: l).find? p = if p a then some a else l.find? p := by
  rw [List.find?_cons]
  cases p a <;> rfl

theorem find?_eq_some_of_unique {α : Type} {p : α → Bool} {l : List α} {x : α} (hx : x ∈ l) (hp : p x = true)
    (uniq : ∀ y ∈ l, p y = true → y = x) : l.find? p = some x := by
  cases hf : l.find? p with
  | none => exact absurd hp (by simpa using List.find?_eq_none.mp hf x hx)
  | some y => rw [uniq y (List.mem_of_find?_eq_some hf) (List.find?_some hf)]

theorem find_perm_unique {α : Type} {p : α → Bool} {l₁ l₂ : List α} (h : l₁.Perm l₂)
    (uniq : ∀ x ∈ l₁, ∀ y ∈ l₁, p x = true → p y = true → x = y) : l₁.find? p = l₂.find? p := by
  cases h1 : l₁.find? p with
  | none =>
    refine (List.find?_eq_none.mpr fun x hx => ?_).symm
    exact List.find?_eq_none.mp h1 x (h.symm.subset hx)
  | some x =>
    have hx := List.mem_of_find?_eq_some h1
    have hpx := List.find?_some h1
    exact (find?_eq_some_of_unique (h.subset hx) hpx fun y hy py => uniq y (h.symm.subset hy) x hx py hpx).symm

theorem find?_name_eq_some {α : Type} {name : α → String} {l : List α} {n : String} {x : α}
    (h : l.find? (name · == n) = some x) : x ∈ l ∧ name x = n :=
  ⟨List.mem_of_find?_eq_some h, by simpa using List.find?_some h⟩

theorem find?_name_isSome {α : Type} {name : α → String} {l : List α} {n : String} (h : n ∈ l.map name) :
    (l.find? (name · == n)).isSome = true := by
  obtain ⟨x, hx, rfl⟩ := List.mem_map.mp h
  exact List.find?_isSome.mpr ⟨x, hx, beq_self_eq_true _⟩

theorem eq_of_nodup_map {α β : Type} (f : α → β) {l : List α} (nd : (l.map f).Nodup) {x y : α}
    (hx : x ∈ l) (hy : y ∈ l) (e : f x = f y) : x = y := by
  induction l with
  | nil => cases hx
  | cons t ts ih =>
    rw [List.map_cons, List.nodup_cons] at nd
    rcases List.mem_cons.mp hx with rfl | hx' <;> rcases List.mem_cons.mp hy with rfl | hy'
    · rfl
    · exact absurd (e ▸ List.mem_map_of_mem hy') nd.1
    · exact absurd (e ▸ List.mem_map_of_mem hx') nd.1
    · exact ih nd.2 hx' hy'

theorem nodup_eraseDups {α : Type} [BEq α] [LawfulBEq α] : (l : List α) → l.eraseDups.Nodup
  | [] => by simp
  | a :: as => by
    rw [List.eraseDups_cons, List.nodup_cons, List.mem_eraseDups]
    exact ⟨by simp, nodup_eraseDups _⟩
termination_by l => l.length
decreasing_by exact Nat.lt_succ_of_le (List.length_filter_le ..)

theorem headD_mem {β : Type} {l : List β} {d : β} (h : l ≠ []) : l.headD d ∈ l := by
  cases l with
  | nil => exact absurd rfl h
  | cons x t => simp

theorem zipIdx_unique {β : Type} {l : List β} {a b : β} {i : Nat} (ha : (a, i) ∈ l.zipIdx) (hb : (b, i) ∈ l.zipIdx) :
    a = b := by
  have h1 := List.mem_zipIdx ha
  have h2 := List.mem_zipIdx hb
  simp only [Nat.zero_add, Nat.sub_zero] at h1 h2
  rw [h1.2.2, h2.2.2]

theorem exists_mem_zipIdx {β : Type} {l : List β} {a : β} (h : a ∈ l) : ∃ i, (a, i) ∈ l.zipIdx := by
  obtain ⟨i, hlt, hget⟩ := List.mem_iff_getElem.mp h
  exact ⟨i, List.mem_zipIdx_iff_getElem?.mpr (by simp [hget, hlt])⟩

theorem filter_length_lt {α : Type} (l : List α) {p q : α → Bool} (hpq : ∀ x, p x = true → q x = true)
    (y : α) (hy : y ∈ l) (hq : q y = true) (hp : p y = false) : (l.filter p).length < (l.filter q).length := by
  have : l.filter p = (l.filter q).filter p := by
    rw [List.filter_filter]
    congr 1
    funext x
    cases h : p x
    · rfl
    · simp [hpq x h]
  rw [this]
  exact List.length_filter_lt_length_iff_exists.mpr ⟨y, List.mem_filter.mpr ⟨hy, hq⟩, by simp [hp]⟩

theorem length_filter_mem_le_count_flatMap {ι α : Type} [BEq α] [LawfulBEq α] (a : α) (g : ι → List α) (l : List ι) :
    (l.filter fun x => decide (a ∈ g x)).length ≤ (l.flatMap g).count a := by
  induction l with
  | nil => simp
  | cons x l ih =>
    rw [List.filter_cons, List.flatMap_cons, List.count_append]
    split
    · have := List.count_pos_iff.mpr (of_decide_eq_true ‹_›)
      simp only [List.length_cons]
      omega
    · omega

theorem length_flatMap_append {α β : Type} (l : List α) (f g : α → List β) :
    (l.flatMap fun x => f x ++ g x).length = (l.flatMap f).length + (l.flatMap g).length := by
  induction l with
  | nil => rfl
  | cons x l ih => simp only [List.flatMap_cons, List.length_append, ih]; omega

theorem length_flatMap_ite {α β : Type} (l : List α) (p : α → Bool) (f : α → β) :
    (l.flatMap fun x => if p x then [] else [f x]).length = (l.filter fun x => !p x).length := by
  induction l with
  | nil => rfl
  | cons x l ih =>
    rw [List.flatMap_cons, List.length_append, ih, List.filter_cons]
    cases p x
    · exact Nat.add_comm _ _
    · exact Nat.zero_add _

theorem forall_mem_ite {α : Type} {c : Prop} [Decidable c] {a b : List α} {P : α → Prop}
    (ha : ∀ x ∈ a, P x) (hb : ∀ x ∈ b, P x) : ∀ x ∈ (if c then a else b), P x := by
  split <;> assumption

theorem ite_nil_eq_nil {α : Type} {p : Prop} [Decidable p] {a : α} {l : List α} : (if p then [] else a :: l) = [] ↔ p := by
  split <;> simp [*]

theorem ite_cons_eq_nil {α : Type} {p : Prop} [Decidable p] {a : α} {l : List α} : (if p then a :: l else []) = [] ↔ ¬p := by
  split <;> simp [*]

theorem mem_of_lookup_eq_some {V : Type} {l : List (String × V)} {k : String} {v : V} (h : l.lookup k = some v) :
    (k, v) ∈ l := by
  obtain ⟨l₁, l₂, rfl, -⟩ := List.lookup_eq_some_iff.mp h
  exact List.mem_append_right _ List.mem_cons_self

theorem lookup_eq_none_iff_not_mem {V : Type} {l : List (String × V)} {k : String} :
    l.lookup k = none ↔ k ∉ l.map Prod.fst := by
  rw [List.lookup_eq_none_iff, List.mem_map]
  exact ⟨fun h ⟨p, hp, e⟩ => bne_iff_ne.mp (h p hp) e.symm, fun h p hp => bne_iff_ne.mpr fun e => h ⟨p, hp, e.symm⟩⟩

theorem lookup_isSome_iff {V : Type} (l : List (String × V)) (k : String) :
    (l.lookup k).isSome ↔ k ∈ l.map Prod.fst := by
  rw [← Option.ne_none_iff_isSome, Ne, lookup_eq_none_iff_not_mem, Decidable.not_not]

theorem lookup_filter_key {V : Type} (m : List (String × V)) (p : String → Bool) (k : String) :
    List.lookup k (m.filter fun e => p e.1) = if p k then List.lookup k m else none := by
  induction m with
  | nil => simp
  | cons e m ih =>
    obtain ⟨a, v⟩ := e
    by_cases hk : k = a
    · subst hk
      cases hp : p k <;> simp [hp, ih]
    · cases hp : p a <;> simp [hp, List.lookup_cons, beq_false_of_ne hk, ih]

theorem lookup_filterMap_key {V : Type} (ks : List String) (f : String → Option V) (k : String) :
    List.lookup k (ks.filterMap fun x => (f x).map (x, ·)) = if k ∈ ks then f k else none := by
  induction ks with
  | nil => simp
  | cons x xs ih =>
    by_cases hk : k = x
    · subst hk
      cases hf : f k <;> simp [hf, ih]
    · cases hf : f x <;> simp [hf, List.lookup_cons, beq_false_of_ne hk, hk, ih]

theorem Errs.pfx_eq_nil_iff {p : String} {e : Errs} : Errs.pfx p e = [] ↔ e = [] := List.map_eq_nil_iff

end GM
