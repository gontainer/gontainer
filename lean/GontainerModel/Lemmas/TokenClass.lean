/-
Classification of a chunk by the first-match factory chain, what the tokenizer's loop emits (`Created`, in the terms of
`Emits`), and when tokenisation fails.
-/
import GontainerModel.Model.Token
import GontainerModel.Lemmas.Emits
namespace GM

namespace Token

/-- the chunk is `%f(…)%` for the registered function `d` -/
def isCallOf (d : FnDef) (chunk : String) : Bool := supports (.function d) chunk

/-- the factory that handles a chunk, written as the decision list the documentation gives:
registered functions (latest registration first), `%%`, `%name%`, other `%f(…)%` (unknown function),
any other `%…%` (malformed token), plain text -/
def classify (fns : List FnDef) (chunk : String) : Factory :=
  match fns.reverse.find? (isCallOf · chunk) with
  | some d => .function d
  | none =>
    if chunk == "%%" then .percentMark
    else if supports .reference chunk then .reference
    else if supports .unexpectedFunction chunk then .unexpectedFunction
    else if supports .unexpectedToken chunk then .unexpectedToken
    else .string

theorem chain_find (fns : List FnDef) (chunk : String) :
    (chain fns).find? (supports · chunk) = some (classify fns chunk) := by
  rw [chain, classify, List.find?_append, List.find?_map,
    show (supports · chunk) ∘ Factory.function = (isCallOf · chunk) from rfl]
  cases fns.reverse.find? (isCallOf · chunk) with
  | some d => rfl
  | none =>
    simp only [Option.map_none, Option.none_or, baseFactories, find?_cons_ite, apply_ite some]
    rfl

/-- creating a token fails exactly for the two "unexpected" classes -/
def rejected (fns : List FnDef) (chunk : String) : Bool :=
  match classify fns chunk with
  | .unexpectedFunction => true
  | .unexpectedToken => true
  | _ => false

theorem createFirst_chain (fns : List FnDef) (st : Imports.St) (chunk : String) :
    createFirst (chain fns) st chunk = create (classify fns chunk) st chunk := by
  unfold createFirst; rw [chain_find]

theorem rejected_eq (fns : List FnDef) (st : Imports.St) (chunk : String) :
    rejected fns chunk = match (create (classify fns chunk) st chunk).2 with | .ok _ => false | .error _ => true := by
  rw [rejected]
  cases classify fns chunk <;> rfl

/-- what the chunk `c` contributes to the loop: the token its class creates, or the creation error (the import table at that
point of the loop is not told) -/
def Created (fns : List FnDef) (c : List Char) (zs : List Token) (e : Errs) : Prop :=
  ∃ st, (∃ t, (create (classify fns (String.ofList c)) st (String.ofList c)).2 = .ok t ∧ zs = [t] ∧ e = []) ∨
    (∃ m, (create (classify fns (String.ofList c)) st (String.ofList c)).2 = .error m ∧ zs = [] ∧ e = [m])

theorem Created.errs_nil_iff {fns : List FnDef} {c : List Char} {zs : List Token} {e : Errs} (h : Created fns c zs e) :
    e = [] ↔ rejected fns (String.ofList c) = false := by
  obtain ⟨st, ⟨t, ht, _, rfl⟩ | ⟨m, hm, _, rfl⟩⟩ := h
  · rw [rejected_eq fns st, ht]
    exact iff_of_true rfl rfl
  · rw [rejected_eq fns st, hm]
    exact iff_of_false (List.cons_ne_nil _ _) Bool.noConfusion

theorem tokenize_emits (fns : List FnDef) (st : Imports.St) {s : String} {cs : List (List Char)}
    (h : Chunk.chunksE s.toList = .ok cs) :
    ∃ ts es, Emits (Created fns) cs ts es ∧ (tokenize fns st s).2 = if es.isEmpty then .ok ts else .error es := by
  refine ⟨_, _, Emits.of_foldl_nil (·.2.1) (·.2.2) (tokenizeStep fns) ?_ cs (st, [], []) rfl rfl, ?_⟩
  · intro acc c
    unfold tokenizeStep
    rw [createFirst_chain]
    rcases hr : create (classify fns (String.ofList c)) acc.1 (String.ofList c) with ⟨st', m | t⟩
    · exact ⟨[], [m], ⟨acc.1, .inr ⟨m, by rw [hr], rfl, rfl⟩⟩, (List.append_nil _).symm, rfl⟩
    · exact ⟨[t], [], ⟨acc.1, .inl ⟨t, by rw [hr], rfl, rfl⟩⟩, rfl, (List.append_nil _).symm⟩
  · simp only [tokenize, h]
    split <;> rfl

theorem tokenize_ok {fns : List FnDef} {st : Imports.St} {s : String} {ts : List Token} (h : (tokenize fns st s).2 = .ok ts) :
    ∃ cs, Chunk.chunksE s.toList = .ok cs ∧ Emits (Created fns) cs ts [] := by
  cases hc : Chunk.chunksE s.toList with
  | error b => simp only [tokenize, hc] at h; cases h
  | ok cs =>
    obtain ⟨ts', es, hE, hts⟩ := tokenize_emits fns st hc
    rw [hts] at h
    cases es with
    | nil => cases h; exact ⟨cs, rfl, hE⟩
    | cons => cases h

theorem tokenize_ok_iff (fns : List FnDef) (st : Imports.St) (s : String) (cs : List (List Char))
    (h : Chunk.chunksE s.toList = .ok cs) :
    (∃ ts, (tokenize fns st s).2 = .ok ts) ↔ ∀ c ∈ cs, rejected fns (String.ofList c) = false := by
  obtain ⟨ts, es, hE, hts⟩ := tokenize_emits fns st h
  rw [hts, ← hE.errs_nil_iff fun _ _ _ h => h.errs_nil_iff]
  cases es <;> simp

end Token
end GM
