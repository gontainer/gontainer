/-
Every `%ref%` token of a pattern is recorded as a parameter dependency, whatever its position, and the references of a pattern
are those of its chunks, whatever the import table holds.
-/
import GontainerModel.Lemmas.TokenClass
namespace GM.Token

def refOf (t : Token) : Option String :=
  match t.sem with
  | .ref r => some r
  | _ => none

theorem create_deps {f : Factory} {st : Imports.St} {chunk : String} {t : Token}
    (h : (create f st chunk).2 = .ok t) : t.dependsOn = (refOf t).toList := by
  cases f <;> cases h <;> rfl

theorem tokenize_deps {fns : List FnDef} {st : Imports.St} {s : String} {ts : List Token}
    (h : (tokenize fns st s).2 = .ok ts) : ∀ t ∈ ts, t.dependsOn = (refOf t).toList := by
  obtain ⟨cs, _, hE⟩ := tokenize_ok h
  refine hE.forall_out ?_
  rintro c _ _ ⟨st, ⟨t, ht, rfl, _⟩ | ⟨_, _, rfl, _⟩⟩
  · exact List.forall_mem_singleton.mpr (create_deps ht)
  · exact fun _ h => nomatch h

theorem flatMap_deps (ts : List Token) (h : ∀ t ∈ ts, t.dependsOn = (refOf t).toList) :
    ts.flatMap (·.dependsOn) = ts.filterMap refOf := by
  induction ts with
  | nil => rfl
  | cons t ts ih =>
    rw [List.flatMap_cons, List.filterMap_cons, h t List.mem_cons_self, ih fun x hx => h x (List.mem_cons_of_mem _ hx)]
    cases refOf t <;> rfl

/-- the references of a creation result -/
def resRefs : Except String Token → List String
  | .ok t => (refOf t).toList
  | .error _ => []

theorem create_refs_indep (f : Factory) (st1 st2 : Imports.St) (chunk : String) :
    resRefs (create f st1 chunk).2 = resRefs (create f st2 chunk).2 := by
  cases f <;> simp only [create, resRefs, refOf]

/-- the references of one chunk; the empty import table stands for any (`create_refs_indep`) -/
def chunkRefs (fns : List FnDef) (c : List Char) : List String :=
  resRefs (create (classify fns (String.ofList c)) {} (String.ofList c)).2

theorem tokenize_refs {fns : List FnDef} {st : Imports.St} {s : String} {ts : List Token} (h : (tokenize fns st s).2 = .ok ts) :
    ∃ cs, Chunk.chunksE s.toList = .ok cs ∧ ts.filterMap refOf = cs.flatMap (chunkRefs fns) := by
  obtain ⟨cs, hc, hE⟩ := tokenize_ok h
  refine ⟨cs, hc, hE.filterMap_out _ _ ?_⟩
  rintro c _ _ ⟨st, ⟨t, ht, rfl, _⟩ | ⟨m, hm, rfl, _⟩⟩ <;> rw [chunkRefs, ← create_refs_indep _ st]
  · rw [ht, resRefs, List.filterMap_cons]
    cases refOf t <;> rfl
  · rw [hm]; rfl

theorem tokenize_refs_indep (fns : List FnDef) (st1 st2 : Imports.St) (s : String) (ts1 : List Token)
    (h : (tokenize fns st1 s).2 = .ok ts1) :
    ∃ ts2, (tokenize fns st2 s).2 = .ok ts2 ∧ ts2.filterMap refOf = ts1.filterMap refOf := by
  obtain ⟨cs, hc, h1⟩ := tokenize_refs h
  obtain ⟨ts2, h2⟩ := (tokenize_ok_iff fns st2 s cs hc).mpr ((tokenize_ok_iff fns st1 s cs hc).mp ⟨ts1, h⟩)
  obtain ⟨cs', hc', h2'⟩ := tokenize_refs h2
  cases hc.symm.trans hc'
  exact ⟨ts2, h2, h2'.trans h1.symm⟩

end GM.Token
