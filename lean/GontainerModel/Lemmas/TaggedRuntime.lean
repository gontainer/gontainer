/-
Run-time side of C04 over the runtime model: the carrier fold of `getTaggedBy` is `getAll`, one `get` after the other;
the decorator fold skips the decorators of tags the service does not carry; the order of the carriers is a total preorder.
-/
import GontainerModel.Model.Runtime
import GontainerModel.Lemmas.Basics
import GontainerModel.Lemmas.SortedMap
namespace GM.Runtime

/-- `get` for each name in turn, threading state and bag; the first error stops -/
def getAll (g : St → Bag → String → St × Bag × Except String RV) : St → Bag → List String → St × Bag × Except String (List RV)
  | st, bag, [] => (st, bag, .ok [])
  | st, bag, n :: rest =>
    match g st bag n with
    | (st', bag', .error e) => (st', bag', .error e)
    | (st', bag', .ok v) =>
      match getAll g st' bag' rest with
      | (st'', bag'', .ok vs) => (st'', bag'', .ok (v :: vs))
      | (st'', bag'', .error e) => (st'', bag'', .error e)

theorem taggedFold_err (g : St → Bag → String → St × Bag × Except String RV) (cs : List (String × Int))
    (st : St) (bag : Bag) (vals : List RV) (e : String) :
    cs.foldl (taggedStep g) (st, bag, vals, some e) = (st, bag, vals, some e) := by
  induction cs with
  | nil => rfl
  | cons c t ih => simp only [List.foldl_cons, taggedStep, Option.isSome_some, ↓reduceIte, ih]

/-- the carrier fold and `getAll` stop at the same carrier, in the same state, with the same error or the same values (the values
collected before an error, `vs`, are dropped by both callers) -/
theorem taggedFold_getAll (g : St → Bag → String → St × Bag × Except String RV) (cs : List (String × Int)) (st : St) (bag : Bag)
    (vals : List RV) :
    ∃ vs, cs.foldl (taggedStep g) (st, bag, vals, none) =
      match getAll g st bag (cs.map (·.1)) with
      | (st', bag', .ok vs') => (st', bag', vals ++ vs', none)
      | (st', bag', .error e) => (st', bag', vs, some e) := by
  induction cs generalizing st bag vals with
  | nil => exact ⟨[], congrArg (fun l => (st, bag, l, none)) (List.append_nil vals).symm⟩
  | cons c t ih =>
    rw [List.map_cons, getAll, List.foldl_cons, taggedStep]
    rcases g st bag c.1 with ⟨s1, b1, e | v⟩
    · exact ⟨vals, taggedFold_err g t s1 b1 vals e⟩
    · obtain ⟨vs, h⟩ := ih s1 b1 (vals ++ [v])
      dsimp only [Option.isSome_none]
      rw [if_neg Bool.false_ne_true, h]
      generalize getAll g s1 b1 _ = r
      obtain ⟨s2, b2, e | vs'⟩ := r
      · exact ⟨vs, rfl⟩
      · exact ⟨vs, congrArg (fun l => (s2, b2, l, none)) (List.append_assoc ..)⟩

/-- a decorator whose tag the service does not carry is skipped (it only moves the position counter, which nothing reads) -/
theorem decoFold_filter (ras : St → Bag → List Output.Arg → St × Bag × Except String (List RV)) (p : Prog) (s : Output.Service)
    (id : String) (ds : List Output.Decorator) (st : St) (bag : Bag) (cur : RV) (err : Option String) (i : Nat) :
    let r := ds.foldl (decoStep ras p s id) (st, bag, cur, err, i)
    let r' := (ds.filter fun d => s.tags.any (·.name == d.tag)).foldl (decoStep ras p s id) (st, bag, cur, err, i)
    (r.1, r.2.1, r.2.2.1, r.2.2.2.1) = (r'.1, r'.2.1, r'.2.2.1, r'.2.2.2.1) := by
  refine foldl_filter_of_proj (fun r : St × Bag × RV × Option String × Nat => (r.1, r.2.1, r.2.2.1, r.2.2.2.1))
    (decoStep ras p s id) _ ?_ ?_ ds _ _ rfl
  · rintro ⟨st, bag, cur, err, i⟩ ⟨_, _, _, _, j⟩ d ⟨⟩
    -- the step at counter `i` written through the step at counter `j`, as an equation to rewrite with: the two projections, both
    -- unfolded, are slow to check against each other
    have : decoStep ras p s id (st, bag, cur, err, i) d =
        (let r := decoStep ras p s id (st, bag, cur, err, j) d; (r.1, r.2.1, r.2.2.1, r.2.2.2.1, i + 1)) := by
      dsimp only [decoStep]
      cases err.isSome
      · cases s.tags.any (·.name == d.tag)
        · rfl
        · rcases ras st bag d.args with ⟨s2, b2, _ | _⟩ <;> rfl
      · rfl
    rw [this]
  · rintro ⟨st, bag, cur, err, i⟩ d hk
    dsimp only [decoStep]
    rw [hk]
    cases err <;> rfl

end GM.Runtime

namespace GM.C04
open GM

/-- the order `GetTaggedBy` uses: priority descending, then service name ascending -/
def tagLe (a b : String × Int) : Bool := if a.2 = b.2 then AMap.strLe a.1 b.1 else decide (a.2 > b.2)

theorem tagLe_iff (a b : String × Int) : tagLe a b = true ↔ b.2 < a.2 ∨ a.2 = b.2 ∧ AMap.strLe a.1 b.1 = true := by
  unfold tagLe
  by_cases h : a.2 = b.2 <;> simp [h]

theorem tagLe_trans (a b c : String × Int) : tagLe a b = true → tagLe b c = true → tagLe a c = true := by
  simp only [tagLe_iff]
  rintro (h1 | ⟨e1, h1⟩) (h2 | ⟨e2, h2⟩)
  · exact Or.inl (by omega)
  · exact Or.inl (by omega)
  · exact Or.inl (by omega)
  · exact Or.inr ⟨e1.trans e2, AMap.strLe_trans _ _ _ h1 h2⟩

theorem tagLe_total (a b : String × Int) : (tagLe a b || tagLe b a) = true := by
  simp only [Bool.or_eq_true, tagLe_iff]
  rcases Int.lt_trichotomy a.2 b.2 with h | h | h
  · exact Or.inr (Or.inl h)
  · exact (Bool.or_eq_true _ _ ▸ AMap.strLe_total a.1 b.1).imp (fun hs => Or.inr ⟨h, hs⟩) (fun hs => Or.inr ⟨h.symm, hs⟩)
  · exact Or.inl (Or.inl h)

end GM.C04
