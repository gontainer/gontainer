/-
Parameter evaluation needs only bounded recursion: under a rank function that decreases along
`%ref%` edges between declared parameters, `getParam` returns the same result (and state) for every
fuel from `2 * rank + 3` on — the fuel bound of the model is never what decides the answer.
-/
import GontainerModel.Model.Runtime
import GontainerModel.Lemmas.Basics
namespace GM.Runtime

/-- the parameters a pattern refers to -/
def refsOf (p : Prog) (v : Val) : List String :=
  match v with
  | .str s =>
    match (Token.tokenize p.fns {} s).2 with
    | .ok ts => ts.filterMap fun t => match t.sem with | .ref n => some n | _ => none
    | .error _ => []
  | _ => []

/-- `rk` decreases along every reference from a declared parameter to a declared parameter -/
def Ranked (p : Prog) (rk : String → Nat) : Prop :=
  ∀ prm ∈ p.out.params, ∀ n ∈ refsOf p prm.raw, (∃ q ∈ p.out.params, q.name = n) → rk n < rk prm.name

theorem getParam_undeclared (p : Prog) (st : St) (id : String) (f : Nat) (h : p.out.params.find? (·.name == id) = none) :
    getParam (f + 1) p st id = (st, match st.ovParams.lookup id with
      | some v => .ok v
      | none => .error ("getParam(" ++ Val.quoteStr id ++ "): param does not exist")) := by
  unfold getParam
  cases st.ovParams.lookup id
  · rw [h]
  · rfl

theorem evalTokStep_congr (p : Prog) (gp gq : St → String → St × Except String RV) (ts : List Token.Token)
    (h : ∀ t ∈ ts, ∀ n, t.sem = .ref n → ∀ st, gp st n = gq st n) (b : St × List Val × Option String) :
    ts.foldl (evalTokStep gp p) b = ts.foldl (evalTokStep gq p) b := by
  apply foldl_congr_mem
  intro acc t ht
  obtain ⟨s1, vals, err⟩ := acc
  unfold evalTokStep
  cases err with
  | some e => rfl
  | none =>
    simp only [Option.isSome_none, Bool.false_eq_true, ↓reduceIte]
    cases hsem : t.sem with
    | lit x => rfl
    | call a b c => rfl
    | ref n => simp only [h t ht n hsem s1]

theorem evalRaw_congr (p : Prog) (v : Val) (f g : Nat)
    (h : ∀ n ∈ refsOf p v, ∀ st, getParam f p st n = getParam g p st n) (st : St) :
    evalRaw (f + 1) p st v = evalRaw (g + 1) p st v := by
  unfold evalRaw
  cases v with
  | str s =>
    simp only
    cases htok : (Token.tokenize p.fns {} s).2 with
    | error es => rfl
    | ok ts =>
      simp only
      rw [evalTokStep_congr p _ _ ts]
      intro t ht n hsem st'
      apply h
      unfold refsOf
      simp only [htok]
      exact List.mem_filterMap.mpr ⟨t, ht, by simp [hsem]⟩
  | _ => rfl

theorem getParam_congr (p : Prog) (id : String) (f g : Nat)
    (h : ∀ prm ∈ p.out.params, prm.name = id → ∀ st, evalRaw f p st prm.raw = evalRaw g p st prm.raw) (st : St) :
    getParam (f + 1) p st id = getParam (g + 1) p st id := by
  unfold getParam
  cases st.ovParams.lookup id with
  | some v => rfl
  | none =>
    cases hfind : p.out.params.find? (·.name == id) with
    | none => rfl
    | some prm =>
      cases st.pcache.lookup id with
      | some v => rfl
      | none =>
        obtain ⟨hmem, hname⟩ := find?_name_eq_some hfind
        simp only [h prm hmem hname]

/-- Fuel that suffices for parameter `id`. `2 * rk id`: each reference followed costs two levels (`getParam`, then `evalRaw`).
`3`: at rank 0 the same two levels, and one for the `getParam` of a reference to an undeclared parameter, which answers with any
fuel but 0 (`getParam_undeclared`). -/
def bound (rk : String → Nat) (id : String) : Nat := 2 * rk id + 3

theorem getParam_stable (p : Prog) (rk : String → Nat) (hr : Ranked p rk) (id : String)
    (st : St) (f g : Nat) (hf : bound rk id ≤ f) (hg : bound rk id ≤ g) :
    getParam f p st id = getParam g p st id := by
  induction hk : rk id using Nat.strongRecOn generalizing id st f g with
  | _ k ih =>
    obtain ⟨a, rfl⟩ := Nat.exists_eq_add_of_le' hf
    obtain ⟨b, rfl⟩ := Nat.exists_eq_add_of_le' hg
    have hb : ∀ n c, rk n < rk id → bound rk n ≤ c + (2 * rk id + 1) := fun n c h => by unfold bound; omega
    -- two levels of fuel take `getParam id` to the `getParam`s of what `id` refers to
    show getParam (a + (2 * rk id + 1) + 2) p st id = getParam (b + (2 * rk id + 1) + 2) p st id
    refine getParam_congr p id _ _ (fun prm hmem hname st1 => evalRaw_congr p _ _ _ (fun n hn st2 => ?_) st1) st
    cases hq : p.out.params.find? (·.name == n) with
    | none => exact (getParam_undeclared p st2 n (a + 2 * rk id) hq).trans (getParam_undeclared p st2 n (b + 2 * rk id) hq).symm
    | some q =>
      obtain ⟨hqm, hqn⟩ := find?_name_eq_some hq
      have hlt := hr prm hmem n hn ⟨q, hqm, hqn⟩
      rw [hname] at hlt
      exact ih _ (hk ▸ hlt) n st2 _ _ (hb n a hlt) (hb n b hlt) rfl

end GM.Runtime
