/-
Caches that only grow. The runtime keeps three association lists (parameter cache, shared services, the bag of
a call tree or context) and a log; every operation of the model either leaves them alone or puts a new entry
in front, and only for a key that had none when the operation started. `Ext` and `LogExt` say that of a list
and of the log, relative to the START of an operation, so that they compose.
-/
namespace GM.Runtime

theorem lookup_cons_ne {α : Type} {id n : String} {v : α} {l : List (String × α)} (h : n ≠ id) :
    List.lookup n ((id, v) :: l) = List.lookup n l := by
  rw [List.lookup_cons, beq_eq_false_iff_ne.mpr h]

theorem lookup_cons_self {α : Type} (id : String) (v : α) (l : List (String × α)) :
    List.lookup id ((id, v) :: l) = some v := List.lookup_cons_self

/-- `l'` extends the cache `l`: every key answers as before, except keys that had no entry in `l` and satisfy `new` -/
def Ext {α : Type} (new : String → Prop) (l l' : List (String × α)) : Prop :=
  ∀ n, l'.lookup n = l.lookup n ∨ (l.lookup n = none ∧ new n)

namespace Ext
variable {α : Type} {new : String → Prop} {a b c : List (String × α)}

theorem refl (new : String → Prop) (a : List (String × α)) : Ext new a a := fun _ => Or.inl rfl

theorem trans (h1 : Ext new a b) (h2 : Ext new b c) : Ext new a c := fun n =>
  match h1 n, h2 n with
  | Or.inl e1, Or.inl e2 => Or.inl (e2.trans e1)
  | Or.inl e1, Or.inr e2 => Or.inr ⟨e1 ▸ e2.1, e2.2⟩
  | Or.inr e1, _ => Or.inr e1

/-- the one way a cache changes: a key without entry at the start gets one -/
theorem cons {id : String} (v : α) (h : Ext new a b) (hid : a.lookup id = none) (hnew : new id) : Ext new a ((id, v) :: b) := by
  intro n
  by_cases hn : n = id
  · exact Or.inr ⟨hn ▸ hid, hn ▸ hnew⟩
  · rw [lookup_cons_ne hn]; exact h n

theorem mono {new' : String → Prop} (h : Ext new a b) (hn : ∀ n, new n → new' n) : Ext new' a b :=
  fun n => (h n).imp id (fun x => ⟨x.1, hn n x.2⟩)

theorem keeps (h : Ext new a b) {n : String} {v : α} (hv : a.lookup n = some v) : b.lookup n = some v := by
  rcases h n with x | x
  · rw [x, hv]
  · rw [hv] at x; cases x.1

theorem absent (h : Ext new a b) {n : String} (hb : b.lookup n = none) : a.lookup n = none := by
  rcases h n with x | x
  · rw [← x, hb]
  · exact x.1

theorem same (h : Ext new a b) {n : String} (hn : ¬ new n) : b.lookup n = a.lookup n :=
  (h n).elim id (fun x => absurd x.2 hn)

end Ext

def LogExt (ok : String → Prop) (l l' : List String) : Prop := ∃ suf, l' = l ++ suf ∧ ∀ e ∈ suf, ok e

namespace LogExt
variable {ok ok' : String → Prop} {a b c : List String}

theorem refl (ok : String → Prop) (a : List String) : LogExt ok a a := ⟨[], by simp, by simp⟩

theorem trans (h1 : LogExt ok a b) (h2 : LogExt ok b c) : LogExt ok a c := by
  obtain ⟨s1, e1, m1⟩ := h1
  obtain ⟨s2, e2, m2⟩ := h2
  refine ⟨s1 ++ s2, by rw [e2, e1, List.append_assoc], fun e he => ?_⟩
  exact (List.mem_append.mp he).elim (m1 e) (m2 e)

theorem mono (h : LogExt ok a b) (hok : ∀ e, ok e → ok' e) : LogExt ok' a b :=
  let ⟨s, e, m⟩ := h; ⟨s, e, fun x hx => hok x (m x hx)⟩

theorem single (a : List String) {e : String} (h : ok e) : LogExt ok a (a ++ [e]) :=
  ⟨[e], rfl, by simpa using h⟩

end LogExt

end GM.Runtime
