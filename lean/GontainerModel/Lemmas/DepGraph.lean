/-
The dependency relation as the documentation states it (`ConfigDep`) and its relation to the graph
`buildGraph` constructs (with the runtime's auxiliary tag / decorate / decorator nodes).
-/
import GontainerModel.Lemmas.Graph
import GontainerModel.Model.Output
namespace GM.Output
open GM GM.Graph

/-- resources: services and parameters -/
inductive Res where
  | service (n : String)
  | param (n : String)
deriving Repr, DecidableEq

def Res.node : Res → Node
  | .service n => .service n
  | .param n => .param n

theorem Res.node_inj {a b : Res} (h : a.node = b.node) : a = b := by
  cases a <;> cases b <;> cases h <;> rfl

/-- service `d` carries tag `t` -/
def carries (o : Output) (d t : String) : Prop := ∃ s ∈ o.services, s.name = d ∧ ∃ tg ∈ s.tags, tg.name = t

/-- what an argument list depends on directly: `@service`, every carrier of a `!tagged` tag, `%param%` -/
def ArgsDep (o : Output) (args : List Arg) : Res → Prop
  | .service d => d ∈ args.flatMap (·.depServices) ∨ ∃ t ∈ args.flatMap (·.depTags), carries o d t
  | .param p => p ∈ args.flatMap (·.depParams)

/-- **the documented dependency relation**: a service depends on what its own arguments (constructor,
calls, fields) depend on and on what the arguments of every decorator attached to one of its tags
depend on; a parameter depends on the parameters it references -/
inductive ConfigDep (o : Output) : Res → Res → Prop
  | own {s : Service} {r : Res} : s ∈ o.services → ArgsDep o s.allArgs r → ConfigDep o (.service s.name) r
  | dec {s : Service} {tg : Tag} {d : Decorator} {i : Nat} {r : Res} : s ∈ o.services → tg ∈ s.tags →
      (d, i) ∈ o.decorators.zipIdx → d.tag = tg.name → ArgsDep o d.args r → ConfigDep o (.service s.name) r
  | param {p : Param} {q : String} : p ∈ o.params → q ∈ p.dependsOn → ConfigDep o (.param p.name) (.param q)

inductive TC {α : Type} (r : α → α → Prop) : α → α → Prop
  | single {a b} : r a b → TC r a b
  | head {a b c} : r a b → TC r b c → TC r a c

theorem TC.trans {α : Type} {r : α → α → Prop} {a b c : α} (h1 : TC r a b) (h2 : TC r b c) : TC r a c := by
  induction h1 with
  | single h => exact TC.head h h2
  | head h _ ih => exact TC.head h (ih h2)

/-- the targets of the edges `argEdges` draws for `args` -/
inductive ArgTarget (args : List Arg) : Node → Prop
  | service {d : String} : d ∈ args.flatMap (·.depServices) → ArgTarget args (nService d)
  | tag {t : String} : t ∈ args.flatMap (·.depTags) → ArgTarget args (nTag t)
  | param {p : String} : p ∈ args.flatMap (·.depParams) → ArgTarget args (nParam p)

theorem mem_argEdges (src : Node) (args : List Arg) (x y : Node) :
    (x, y) ∈ argEdges src args ↔ x = src ∧ ArgTarget args y := by
  simp only [argEdges, List.mem_append, List.mem_map, Prod.mk.injEq]
  constructor
  · rintro ((⟨d, hd, rfl, rfl⟩ | ⟨t, ht, rfl, rfl⟩) | ⟨p, hp, rfl, rfl⟩)
    · exact ⟨rfl, .service hd⟩
    · exact ⟨rfl, .tag ht⟩
    · exact ⟨rfl, .param hp⟩
  · rintro ⟨rfl, hd | ht | hp⟩
    · exact .inl (.inl ⟨_, hd, rfl, rfl⟩)
    · exact .inl (.inr ⟨_, ht, rfl, rfl⟩)
    · exact .inr ⟨_, hp, rfl, rfl⟩

theorem mem_serviceEdges (s : Service) (x y : Node) :
    (x, y) ∈ serviceEdges s ↔
      (∃ tg ∈ s.tags, (x = nTag tg.name ∧ y = nService s.name) ∨ (x = nService s.name ∧ y = nDecorate tg.name)) ∨
      (x, y) ∈ argEdges (nService s.name) s.allArgs := by
  unfold serviceEdges
  simp only [List.mem_append, List.mem_flatMap, List.mem_cons, Prod.mk.injEq, List.not_mem_nil, or_false]

theorem mem_decoratorEdges (i : Nat) (d : Decorator) (x y : Node) :
    (x, y) ∈ decoratorEdges i d ↔ (x = nDecorate d.tag ∧ y = nDecorator i) ∨ (x, y) ∈ argEdges (nDecorator i) d.args := by
  unfold decoratorEdges
  simp only [List.mem_cons, Prod.mk.injEq]

theorem mem_buildGraph_edges (o : Output) (x y : Node) :
    (x, y) ∈ (buildGraph o).edges ↔
      (∃ s ∈ o.services, (x, y) ∈ serviceEdges s) ∨
      (∃ di ∈ o.decorators.zipIdx, (x, y) ∈ decoratorEdges di.2 di.1) ∨
      (∃ p ∈ o.params, ∃ q ∈ p.dependsOn, x = nParam p.name ∧ y = nParam q) := by
  simp only [buildGraph, List.mem_append, List.mem_flatMap, List.mem_map, Prod.mk.injEq, or_assoc, eq_comm]

/-- the edges by kind. Case analysis of an edge whose source is known leaves the kinds that source admits, with their data. -/
inductive Edge (o : Output) : Node → Node → Prop
  | carrier {d t : String} : carries o d t → Edge o (nTag t) (nService d)
  | decorate {d t : String} : carries o d t → Edge o (nService d) (nDecorate t)
  | decorator {d : Decorator} {i : Nat} : (d, i) ∈ o.decorators.zipIdx → Edge o (nDecorate d.tag) (nDecorator i)
  | svcArg {s : Service} {y : Node} : s ∈ o.services → ArgTarget s.allArgs y → Edge o (nService s.name) y
  | decArg {d : Decorator} {i : Nat} {y : Node} : (d, i) ∈ o.decorators.zipIdx → ArgTarget d.args y → Edge o (nDecorator i) y
  | param {p : Param} {q : String} : p ∈ o.params → q ∈ p.dependsOn → Edge o (nParam p.name) (nParam q)

theorem mem_edges_iff {o : Output} {x y : Node} : (x, y) ∈ (buildGraph o).edges ↔ Edge o x y := by
  simp only [mem_buildGraph_edges, mem_serviceEdges, mem_decoratorEdges, mem_argEdges]
  constructor
  · rintro (⟨s, hs, ⟨tg, htg, ⟨rfl, rfl⟩ | ⟨rfl, rfl⟩⟩ | ⟨rfl, h⟩⟩ | ⟨⟨d, i⟩, hd, ⟨rfl, rfl⟩ | ⟨rfl, h⟩⟩ | ⟨p, hp, q, hq, rfl, rfl⟩)
    · exact .carrier ⟨s, hs, rfl, tg, htg, rfl⟩
    · exact .decorate ⟨s, hs, rfl, tg, htg, rfl⟩
    · exact .svcArg hs h
    · exact .decorator hd
    · exact .decArg hd h
    · exact .param hp hq
  · rintro (⟨s, hs, rfl, tg, htg, rfl⟩ | ⟨s, hs, rfl, tg, htg, rfl⟩ | hd | ⟨hs, h⟩ | ⟨hd, h⟩ | ⟨hp, hq⟩)
    · exact .inl ⟨s, hs, .inl ⟨tg, htg, .inl ⟨rfl, rfl⟩⟩⟩
    · exact .inl ⟨s, hs, .inl ⟨tg, htg, .inr ⟨rfl, rfl⟩⟩⟩
    · exact .inr (.inl ⟨_, hd, .inl ⟨rfl, rfl⟩⟩)
    · exact .inl ⟨_, hs, .inr ⟨rfl, h⟩⟩
    · exact .inr (.inl ⟨_, hd, .inr ⟨rfl, h⟩⟩)
    · exact .inr (.inr ⟨_, hp, _, hq, rfl, rfl⟩)

theorem Edge.path {o : Output} {x y : Node} (h : Edge o x y) : Path (buildGraph o) x y := .edge (mem_edges_iff.mpr h)

/-- resource `r` owns the argument list `args`, whose edges leave node `src`: its own arguments at its own
node, or those of a decorator attached to one of its tags at the decorator's node -/
inductive Owns (o : Output) : Res → Node → List Arg → Prop
  | own {s : Service} : s ∈ o.services → Owns o (.service s.name) (nService s.name) s.allArgs
  | dec {s : Service} {tg : Tag} {d : Decorator} {i : Nat} : s ∈ o.services → tg ∈ s.tags →
      (d, i) ∈ o.decorators.zipIdx → d.tag = tg.name → Owns o (.service s.name) (nDecorator i) d.args

theorem Owns.configDep {o : Output} {r r' : Res} {src : Node} {args : List Arg} (h : Owns o r src args)
    (hd : ArgsDep o args r') : ConfigDep o r r' := by
  cases h with
  | own hs => exact .own hs hd
  | dec hs htg hdi ht => exact .dec hs htg hdi ht hd

theorem Owns.edges {o : Output} {r : Res} {src : Node} {args : List Arg} (h : Owns o r src args) :
    (∀ y, ArgTarget args y → Edge o src y) ∧ (src = r.node ∨ Path (buildGraph o) r.node src) := by
  cases h with
  | own hs => exact ⟨fun _ => .svcArg hs, .inl rfl⟩
  | @dec s tg d i hs htg hdi ht =>
    exact ⟨fun _ => .decArg hdi, .inr ((Edge.decorate ⟨s, hs, rfl, tg, htg, rfl⟩).path.trans (ht ▸ Edge.decorator hdi).path)⟩

theorem path_of_configDep (o : Output) (a b : Res) (h : ConfigDep o a b) : Path (buildGraph o) a.node b.node := by
  have of_owned : ∀ {src args}, Owns o a src args → ArgsDep o args b → Path (buildGraph o) a.node b.node := by
    intro src args ho hd
    obtain ⟨hin, hsrc⟩ := ho.edges
    have p : Path (buildGraph o) src b.node := by
      cases b with
      | service d =>
        rcases hd with h | ⟨t, ht, hc⟩
        · exact (hin _ (.service h)).path
        · exact (hin _ (.tag ht)).path.trans (Edge.carrier hc).path
      | param q => exact (hin _ (.param hd)).path
    rcases hsrc with rfl | q
    · exact p
    · exact q.trans p
  cases h with
  | own hs hd => exact of_owned (.own hs) hd
  | dec hs htg hdi ht hd => exact of_owned (.dec hs htg hdi ht) hd
  | param hp hq => exact (Edge.param hp hq).path

theorem path_of_tc (o : Output) (a b : Res) (h : TC (ConfigDep o) a b) : Path (buildGraph o) a.node b.node := by
  induction h with
  | single h => exact path_of_configDep o _ _ h
  | head h _ ih => exact (path_of_configDep o _ _ h).trans ih

/-! A path of the graph leaves a resource either directly to another resource or through auxiliary
nodes (tag, decorate, decorator).  `Aux o r x` says: the auxiliary node `x` was entered on behalf of
resource `r`, which is exactly what is needed to turn the next resource reached into a `ConfigDep`. -/

def Aux (o : Output) (r : Res) : Node → Prop
  | .tag t => ∃ src args, Owns o r src args ∧ t ∈ args.flatMap (·.depTags)
  | .decorate t => ∃ n, r = .service n ∧ carries o n t
  | .decorator i => ∃ d, (d, i) ∈ o.decorators.zipIdx ∧ Owns o r (nDecorator i) d.args
  | _ => False

/-- where a path that left `r` may stand before it reaches the next resource: at `r` itself or at an auxiliary node entered on
behalf of `r` -/
def From (o : Output) (r : Res) (x : Node) : Prop := x = r.node ∨ Aux o r x

theorem aux_not_res (o : Output) (r b : Res) : ¬ Aux o r b.node := by
  cases b <;> exact id

theorem From.configDep_or_aux {o : Output} {r : Res} {x y : Node} (hf : From o r x) (he : Edge o x y) :
    (∃ r', y = r'.node ∧ ConfigDep o r r') ∨ Aux o r y := by
  have of_target : ∀ {src args}, Owns o r src args → ArgTarget args y → (∃ r', y = r'.node ∧ ConfigDep o r r') ∨ Aux o r y := by
    intro src args ho ht
    cases ht with
    | service hd => exact .inl ⟨.service _, rfl, ho.configDep (.inl hd)⟩
    | tag ht => exact .inr ⟨src, args, ho, ht⟩
    | param hp => exact .inl ⟨.param _, rfl, ho.configDep hp⟩
  rcases hf with rfl | hx
  · cases r with
    | service n =>
      cases he with
      | decorate hc => exact .inr ⟨_, rfl, hc⟩
      | svcArg hs ht => exact of_target (.own hs) ht
    | param n =>
      cases he with
      | param hp hq => exact .inl ⟨.param _, rfl, .param hp hq⟩
  · cases he with
    | carrier hc =>
      obtain ⟨src, args, ho, ht⟩ := hx
      exact .inl ⟨.service _, rfl, ho.configDep (.inr ⟨_, ht, hc⟩)⟩
    | decorator hdi =>
      obtain ⟨n, rfl, s, hs, rfl, tg, htg, ht⟩ := hx
      exact .inr ⟨_, hdi, .dec hs htg hdi ht.symm⟩
    | decArg hdi' ht =>
      obtain ⟨d, hdi, ho⟩ := hx
      obtain rfl := zipIdx_unique hdi hdi'
      exact of_target ho ht
    | decorate | svcArg | param => exact hx.elim

theorem tc_of_path_aux (o : Output) (x y : Node) (hp : Path (buildGraph o) x y) :
    ∀ (r b : Res), From o r x → y = b.node → TC (ConfigDep o) r b := by
  induction hp with
  | edge he =>
    intro r b hf hy
    rcases hf.configDep_or_aux (mem_edges_iff.mp he) with ⟨r', hy', hc⟩ | haux
    · rw [hy] at hy'
      rw [Res.node_inj hy']
      exact TC.single hc
    · rw [hy] at haux
      exact absurd haux (aux_not_res o r b)
  | cons he _ ih =>
    intro r b hf hy
    rcases hf.configDep_or_aux (mem_edges_iff.mp he) with ⟨r', hy', hc⟩ | haux
    · exact TC.head hc (ih r' b (Or.inl hy') hy)
    · exact ih r b (Or.inr haux) hy

theorem path_iff_tc (o : Output) (a b : Res) : Path (buildGraph o) a.node b.node ↔ TC (ConfigDep o) a b :=
  ⟨fun h => tc_of_path_aux o _ _ h a b (Or.inl rfl) rfl, path_of_tc o a b⟩

/-- every cycle passes through a resource: the edges out of a tag lead to services, those out of a decorator to a resource or a
tag, those out of a decorate node to a decorator -/
theorem exists_res_cycle (o : Output) (v : Node) (p : Path (buildGraph o) v v) :
    ∃ r : Res, Path (buildGraph o) r.node r.node := by
  have tag : ∀ t, Path (buildGraph o) (nTag t) (nTag t) → ∃ r : Res, Path (buildGraph o) r.node r.node := by
    intro t p
    obtain ⟨y, e, py⟩ := p.rotate
    cases mem_edges_iff.mp e with
    | carrier _ => exact ⟨.service _, py⟩
  have decorator : ∀ i, Path (buildGraph o) (nDecorator i) (nDecorator i) → ∃ r : Res, Path (buildGraph o) r.node r.node := by
    intro i p
    obtain ⟨y, e, py⟩ := p.rotate
    cases mem_edges_iff.mp e with
    | decArg _ ht =>
      cases ht with
      | service _ => exact ⟨.service _, py⟩
      | tag _ => exact tag _ py
      | param _ => exact ⟨.param _, py⟩
  cases v with
  | service n => exact ⟨.service n, p⟩
  | param n => exact ⟨.param n, p⟩
  | tag t => exact tag t p
  | decorator i => exact decorator i p
  | decorate t =>
    obtain ⟨y, e, py⟩ := p.rotate
    cases mem_edges_iff.mp e with
    | decorator _ => exact decorator _ py

theorem cycle_iff_tc (o : Output) : (∃ v, Path (buildGraph o) v v) ↔ ∃ a : Res, TC (ConfigDep o) a a := by
  constructor
  · rintro ⟨v, p⟩
    obtain ⟨r, pr⟩ := exists_res_cycle o v p
    exact ⟨r, (path_iff_tc o r r).mp pr⟩
  · rintro ⟨a, h⟩
    exact ⟨a.node, path_of_tc o a a h⟩

/-- `scopePairs` leaves the start node out of its own list; no pair is lost by that: the start is shared, and only contextual
targets yield pairs -/
theorem mem_scopePairs (o : Output) (s c : String) :
    (s, c) ∈ scopePairs o ↔ s ∈ o.services.map (·.name) ∧ scopeOf o s = .shared ∧ scopeOf o c = .contextual ∧
      nService c ∈ reachD (buildGraph o) (nService s) := by
  unfold scopePairs
  simp only [List.mem_flatMap, List.mem_mergeSort, List.mem_eraseDups, List.mem_ite_nil_right, List.mem_filterMap, List.mem_filter]
  constructor
  · rintro ⟨s', hs', hsh, id, ⟨hreach, -⟩, hentry⟩
    -- `hentry`: the node `id` reachable from `s'` yields the pair; only a service node declared contextual yields any
    cases id with
    | service n =>
      change (if scopeOf o n = .contextual then some (s', n) else none) = some (s, c) at hentry
      by_cases hctx : scopeOf o n = .contextual
      · rw [if_pos hctx] at hentry; cases hentry; exact ⟨hs', hsh, hctx, hreach⟩
      · rw [if_neg hctx] at hentry; cases hentry
    | _ => cases hentry
  · rintro ⟨hs, hsh, hctx, hreach⟩
    have hne : nService c ≠ nService s := fun e => by cases e; rw [hsh] at hctx; cases hctx
    exact ⟨s, hs, hsh, nService c, ⟨hreach, bne_iff_ne.mpr hne⟩, if_pos hctx⟩

end GM.Output
