/- the existence validators accept iff every recorded dependency is declared -/
import GontainerModel.Model.Output
import GontainerModel.Lemmas.Basics
namespace GM.C06
open GM GM.Output

theorem missing_nil_iff (decl deps : List String) : missing decl deps = [] ↔ ∀ n ∈ deps, n ∈ decl := by
  simp [missing, List.filter_eq_nil_iff]

theorem services_exist_iff (o : Output) :
    validateServicesExist o = [] ↔
      (∀ s ∈ o.services, ∀ n ∈ s.allArgs.flatMap (·.depServices), n ∈ o.services.map (·.name)) ∧
      (∀ di ∈ o.decorators.zipIdx, ∀ n ∈ di.1.args.flatMap (·.depServices), n ∈ o.services.map (·.name)) := by
  unfold validateServicesExist
  rw [Errs.pfx_eq_nil_iff]
  simp only [List.append_eq_nil_iff, List.flatMap_eq_nil_iff, List.map_eq_nil_iff, missing_nil_iff]

theorem params_exist_iff (o : Output) :
    validateParamsExist o = [] ↔
      (∀ p ∈ o.params, ∀ n ∈ p.dependsOn, n ∈ o.params.map (·.name)) ∧
      (∀ s ∈ o.services, ∀ n ∈ s.allArgs.flatMap (·.depParams), n ∈ o.params.map (·.name)) ∧
      (∀ di ∈ o.decorators.zipIdx, ∀ n ∈ di.1.args.flatMap (·.depParams), n ∈ o.params.map (·.name)) := by
  unfold validateParamsExist
  rw [Errs.pfx_eq_nil_iff]
  simp only [List.append_eq_nil_iff, List.flatMap_eq_nil_iff, List.map_eq_nil_iff, missing_nil_iff, and_assoc]

end GM.C06
