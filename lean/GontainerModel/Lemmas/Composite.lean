/-
Language of the composite regular expressions (import, function, type, value, argument forms)
= the readable recognisers of `Model/Grammar.lean`, for every string: one closure lemma per
combinator of the grammar (quotes, `qualified`, `optLead`, `withBraces`, `afterSpaces`, `keyword`),
and each form is assembled from them the way its expression is.
-/
import GontainerModel.Lemmas.Grammar
namespace GM.Grammar
open GM GM.Re

theorem goToken_lang (w : List Char) : Lang Rx.goToken w ↔ goToken w = true := recognises_goToken w

theorem recognises_baseImport : Recognises Rx.baseImport baseImport :=
  (recognises_sepTail [(47, 47)] Rx.importTail).cls_cat Rx.letter rfl fun _ _ => rfl

theorem unquoted_eq_some (w m : List Char) : unquoted w = some m ↔ w = '"' :: (m ++ ['"']) := by
  constructor
  · intro h
    unfold unquoted at h
    split at h
    · split at h
      next hl =>
        cases h
        obtain ⟨ys, rfl⟩ := List.getLast?_eq_some_iff.mp hl
        simp
      next => cases h
    · cases h
  · rintro rfl
    simp [unquoted]

theorem _root_.GM.Re.Recognises.quoted {r : Re} {P : List Char → Bool} (h : Recognises r P) :
    Recognises (cat (chr '"') (cat r (chr '"'))) fun w => (unquoted w).any P := by
  intro w
  simp only [lang_chr_cat_iff, lang_cat_chr_iff, h _, Option.any_eq_true, unquoted_eq_some]
  constructor
  · rintro ⟨_, rfl, m, rfl, hm⟩
    exact ⟨m, rfl, hm⟩
  · rintro ⟨m, rfl, hm⟩
    exact ⟨_, rfl, m, rfl, hm⟩

theorem recognises_import : Recognises Rx.import_ import_ := by
  have quotedBase := recognises_baseImport.quoted.of_lang (s := cat Rx.q (cat (cls Rx.letter) (cat Rx.baseImportTail Rx.q)))
    (lang_cat_congr (fun _ => Iff.rfl) fun w => (lang_cat_assoc w).symm)
  refine (recognises_baseImport.alt (quotedBase.alt (recognises_lit ['.']).quoted)).congr fun w => ?_
  unfold import_
  cases unquoted w <;> rfl

theorem mem_splitsAtDot (w a b : List Char) : (a, b) ∈ splitsAtDot w ↔ w = a ++ '.' :: b := by
  constructor
  · intro h
    induction w generalizing a with
    | nil => cases h
    | cons c t ih =>
      rcases List.mem_append.mp h with h | h
      · by_cases hc : c = '.'
        · rw [if_pos hc, List.mem_singleton] at h
          cases h
          rw [hc]; rfl
        · rw [if_neg hc] at h
          cases h
      · obtain ⟨⟨a', b'⟩, hm, e⟩ := List.mem_map.mp h
        cases e
        rw [ih a' hm]; rfl
  · rintro rfl
    induction a with
    | nil => exact List.mem_append_left _ (by rw [if_pos rfl]; exact List.mem_singleton_self _)
    | cons a0 a ih => exact List.mem_append_right _ (List.mem_map_of_mem ih)

theorem _root_.GM.Re.Recognises.qualified {r : Re} {P : List Char → Bool} (h : Recognises r P) (n : String) :
    Recognises (cat (opt (cat (group n Rx.import_) (chr '.'))) r) (Grammar.qualified P) := by
  refine h.optcat fun w => ?_
  rw [lang_cat_assoc, lang_cat_iff]
  simp only [lang_chr_cat_iff, lang_group_iff, recognises_import _, h _, List.any_eq_true, Bool.and_eq_true, Prod.exists,
    mem_splitsAtDot]
  constructor
  · rintro ⟨i, _, rfl, hi, y, rfl, hy⟩
    exact ⟨i, y, rfl, hi, hy⟩
  · rintro ⟨i, y, rfl, hi, hy⟩
    exact ⟨i, _, rfl, hi, y, rfl, hy⟩

theorem _root_.GM.Re.Recognises.optLead {r : Re} {P : List Char → Bool} (h : Recognises r P) (n : String) (c : Char) :
    Recognises (cat (opt (group n (chr c))) r) (Grammar.optLead c P) :=
  h.optcat ((h.chr_cat c rfl fun _ _ => rfl).of_lang (lang_cat_congr (lang_group_iff n _) fun _ => Iff.rfl))

theorem recognises_goFunc : Recognises Rx.goFunc goFunc := (recognises_goToken.group "fn").qualified "import"

theorem recognises_serviceType : Recognises Rx.serviceType serviceType :=
  ((recognises_goToken.group "type").qualified "import").optLead "ptr" '*'

/-- what follows the first letter in `Ident(.Ident)*`: `[A-Za-z0-9_]*(\.[A-Za-z][A-Za-z0-9_]*)*` -/
def dottedTailRe : Re :=
  cat (star (cls Rx.identTail)) (star (cat (chr '.') (cat (cls Rx.letter) (star (cls Rx.identTail)))))

theorem recognises_dottedTail : Recognises dottedTailRe dottedTail := by
  refine recognises_units (sep := (· == '.')) (first := isLetter) (body := isIdentTail) (fun _ => Cls.mem_mono (by decide))
    (Lang.cat Lang.starNil Lang.starNil) (fun a t => ?_) rfl fun _ t => by cases t <;> rfl
  rw [dottedTailRe, lang_star_cls_cat_cons_iff, lang_star_chr_cat_cons_iff, lang_cat_assoc, lang_cls_cat_iff, beq_iff_eq]
  exact Or.comm

/-- the expression is the body of the group `value` of `Rx.value1`, which has no name of its own -/
theorem recognises_dotted :
    Recognises (cat (cls Rx.letter) (cat (star (cls Rx.identTail)) (star (cat Rx.dot (cat (cls Rx.letter) (star (cls Rx.identTail)))))))
      dotted :=
  recognises_dottedTail.cls_cat Rx.letter rfl fun _ _ => rfl

theorem beforeBraces_eq_some (w b : List Char) : beforeBraces w = some b ↔ w = b ++ ['{', '}'] := by
  unfold beforeBraces
  constructor
  · intro h
    by_cases hd : w.drop (w.length - 2) = ['{', '}']
    · rw [if_pos hd, Option.some.injEq] at h
      rw [← h, ← hd, List.take_append_drop]
    · rw [if_neg hd] at h
      cases h
  · rintro rfl
    simp

theorem _root_.GM.Re.Recognises.withBraces {r : Re} {P : List Char → Bool} (h : Recognises r P) :
    Recognises (cat r (lit ['{', '}'])) (Grammar.withBraces P) := by
  refine Recognises.congr (P := fun w => (beforeBraces w).any P) (fun w => ?_) fun w => ?_
  · simp only [lang_cat_iff, lang_lit_iff, h _, Option.any_eq_true, beforeBraces_eq_some]
    constructor
    · rintro ⟨x, _, rfl, hx, rfl⟩
      exact ⟨x, rfl, hx⟩
    · rintro ⟨x, rfl, hx⟩
      exact ⟨x, _, rfl, hx, rfl⟩
  · unfold Grammar.withBraces
    cases beforeBraces w <;> rfl

theorem recognises_value1 : Recognises Rx.value1 (optLead '&' (qualified dotted)) :=
  (((recognises_dotted.group "value").qualified "import").optLead "ptr" '&').group "v1"

theorem recognises_value2 : Recognises Rx.value2 (optLead '&' (qualified (withBraces goToken))) :=
  ((((recognises_goToken.group "struct2").withBraces).qualified "import2").optLead "ptr2" '&').group "v2"

theorem recognises_serviceValue : Recognises Rx.serviceValue serviceValue := recognises_value1.alt recognises_value2

theorem recognises_decoratorTag : Recognises Rx.decoratorTag decoratorTag := (recognises_lit ['*']).alt recognises_yamlToken

theorem recognises_argService : Recognises Rx.argService argService :=
  (recognises_yamlToken.group "service").chr_cat '@' rfl fun c t => by
    by_cases h : c = '@' <;> simp [argService, h]

theorem _root_.GM.Re.Recognises.afterSpaces {r : Re} {P : List Char → Bool} (h : Recognises r P) :
    Recognises (cat (plus (cls Rx.space)) r) (Grammar.afterSpaces P) := by
  have rest : Recognises (cat (star (cls Rx.space)) r) fun t => P t || Grammar.afterSpaces P t := by
    intro t
    induction t with
    | nil => rw [lang_star_cat_nil_iff, h]; simp [Grammar.afterSpaces]
    | cons c t ih => rw [lang_star_cls_cat_cons_iff, ih, h]; simp [Grammar.afterSpaces, isSpace]
  exact (rest.cls_cat Rx.space rfl fun _ _ => rfl).of_lang lang_cat_assoc

theorem _root_.GM.Re.Recognises.keyword {r : Re} {P : List Char → Bool} (h : Recognises r P) (k : List Char) :
    Recognises (cat (lit k) r) (Grammar.keyword k P) := by
  intro w
  unfold Grammar.keyword
  simp only [lang_cat_iff, lang_lit_iff, h _, Bool.and_eq_true, List.isPrefixOf_iff_prefix]
  constructor
  · rintro ⟨_, y, rfl, rfl, hy⟩
    exact ⟨List.prefix_append _ _, by rwa [List.drop_left]⟩
  · rintro ⟨⟨y, rfl⟩, hy⟩
    exact ⟨k, y, rfl, rfl, by rwa [List.drop_left] at hy⟩

theorem recognises_argTagged : Recognises Rx.argTagged argTagged :=
  (recognises_yamlToken.group "tag").afterSpaces.keyword ['!', 't', 'a', 'g', 'g', 'e', 'd']

theorem recognises_argValue : Recognises Rx.argValue argValue :=
  (recognises_serviceValue.group "argval").afterSpaces.keyword ['!', 'v', 'a', 'l', 'u', 'e']

end GM.Grammar
