/-
Parameters over whole histories (runtime model): `getParam` touches nothing but the parameter cache and the
evaluation log; a cached value is never replaced, and the only providers that run are those of parameters that
were not cached.
-/
import GontainerModel.Model.Runtime
import GontainerModel.Lemmas.Cache
import GontainerModel.Lemmas.Basics
namespace GM.Runtime

/-- what a parameter evaluation leaves alone: everything but the parameter cache and the log -/
structure PFrame (st st' : St) : Prop where
  ovParams : st'.ovParams = st.ovParams
  ovServices : st'.ovServices = st.ovServices
  shared : st'.shared = st.shared
  ctxBags : st'.ctxBags = st.ctxBags
  heap : st'.heap = st.heap
  next : st'.next = st.next

/-- what a parameter evaluation may do to the state: the cache is extended; the log grows by evaluations of parameters
that were not cached at the start -/
structure PInv (st st' : St) : Prop extends PFrame st st' where
  pc : Ext (fun _ => True) st.pcache st'.pcache
  lg : LogExt (fun e => ∃ n, e = "param:" ++ n ∧ st.pcache.lookup n = none) st.evalLog st'.evalLog

theorem PInv.refl (st : St) : PInv st st := ⟨⟨rfl, rfl, rfl, rfl, rfl, rfl⟩, Ext.refl _ _, LogExt.refl _ _⟩

theorem PInv.trans {a b c : St} (h1 : PInv a b) (h2 : PInv b c) : PInv a c :=
  ⟨⟨h2.ovParams.trans h1.ovParams, h2.ovServices.trans h1.ovServices, h2.shared.trans h1.shared,
      h2.ctxBags.trans h1.ctxBags, h2.heap.trans h1.heap, h2.next.trans h1.next⟩,
    h1.pc.trans h2.pc, h1.lg.trans (h2.lg.mono fun _ ⟨n, he, hn⟩ => ⟨n, he, h1.pc.absent hn⟩)⟩

/-- the provider of an uncached parameter runs: its log entry, the evaluation, and on success the new cache entry -/
theorem PInv.provider {st s1 : St} {id : String} (hid : st.pcache.lookup id = none)
    (h : PInv { st with evalLog := st.evalLog ++ ["param:" ++ id] } s1) :
    PInv st s1 ∧ ∀ v, PInv st { s1 with pcache := (id, v) :: s1.pcache } :=
  -- the frame clauses of `h` are those wanted, up to unfolding the two `with`-updates
  have fr : PFrame st s1 := ⟨h.ovParams, h.ovServices, h.shared, h.ctxBags, h.heap, h.next⟩
  have lg := (LogExt.single _ ⟨id, rfl, hid⟩).trans h.lg
  ⟨⟨fr, h.pc, lg⟩, fun v => ⟨⟨fr.ovParams, fr.ovServices, fr.shared, fr.ctxBags, fr.heap, fr.next⟩, h.pc.cons v hid trivial, lg⟩⟩

theorem evalTokStep_inv {I : St → Prop} {gp : St → String → St × Except String RV} (hgp : ∀ s n, I s → I (gp s n).1)
    (p : Prog) (acc : St × List Val × Option String) (t : Token.Token) (h0 : I acc.1) : I (evalTokStep gp p acc t).1 := by
  obtain ⟨s1, vals, err⟩ := acc
  unfold evalTokStep
  cases err with
  | some e => exact h0
  | none =>
    simp only [Option.isSome_none, Bool.false_eq_true, ↓reduceIte]
    cases t.sem with
    | lit x => exact h0
    | call a b c => simp only; cases builtinCall p b c <;> exact h0
    | ref n =>
      have := hgp s1 n h0
      simp only
      generalize gp s1 n = r at this ⊢
      obtain ⟨s2, e | v⟩ := r <;> exact this

theorem evalRaw_inv {I : St → Prop} (f : Nat) (p : Prog) (hgp : ∀ s n, I s → I (getParam f p s n).1)
    (st : St) (v : Val) (h0 : I st) : I (evalRaw (f + 1) p st v).1 := by
  unfold evalRaw
  cases v with
  | str s =>
    simp only
    cases (Token.tokenize p.fns {} s).2 with
    | error es => exact h0
    | ok ts =>
      simp only
      rcases hr : List.foldl _ (st, [], none) ts with ⟨s2, vals, err⟩
      have := foldl_inv_eq (I := fun acc => I acc.1) hr h0 (evalTokStep_inv hgp p)
      cases err
      · simp only; split <;> exact this
      · exact this
  | _ => exact h0

theorem pinv_main (p : Prog) : ∀ f : Nat,
    (∀ (st : St) (id : String), PInv st (getParam f p st id).1) ∧ (∀ (st : St) (v : Val), PInv st (evalRaw f p st v).1) := by
  intro f
  induction f with
  | zero => exact ⟨fun st _ => PInv.refl st, fun st _ => PInv.refl st⟩
  | succ f ih =>
    obtain ⟨ihP, ihE⟩ := ih
    refine ⟨fun st id => ?_, fun st v => evalRaw_inv f p (fun s n h => h.trans (ihP s n)) st v (PInv.refl st)⟩
    unfold getParam
    cases st.ovParams.lookup id with
    | some v => exact PInv.refl st
    | none =>
      cases p.out.params.find? (·.name == id) with
      | none => exact PInv.refl st
      | some prm =>
        cases hpc : st.pcache.lookup id with
        | some v => exact PInv.refl st
        | none =>
          have hE := ihE { st with evalLog := st.evalLog ++ ["param:" ++ id] } prm.raw
          simp only
          generalize evalRaw f p { st with evalLog := st.evalLog ++ ["param:" ++ id] } prm.raw = res at hE ⊢
          obtain ⟨s1, e | v⟩ := res
          · exact (PInv.provider hpc hE).1
          · exact (PInv.provider hpc hE).2 v

theorem getParam_pinv (p : Prog) (f : Nat) (st : St) (id : String) : PInv st (getParam f p st id).1 := (pinv_main p f).1 st id

theorem evalRaw_pinv (p : Prog) (f : Nat) (st : St) (v : Val) : PInv st (evalRaw f p st v).1 := (pinv_main p f).2 st v

/-- a history of `GetParam` calls -/
def runParams (F : Nat) (p : Prog) (st : St) (ops : List String) : St :=
  ops.foldl (fun s n => (getParam F p s n).1) st

theorem runParams_inv (p : Prog) (F : Nat) (ops : List String) (st : St) : PInv st (runParams F p st ops) :=
  foldl_inv (PInv st) ops st (PInv.refl st) fun s n _ h => h.trans (getParam_pinv p F s n)

end GM.Runtime
