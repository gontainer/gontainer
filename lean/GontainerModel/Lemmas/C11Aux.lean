/-
When the building blocks of the validators return no error, and the duplicate-getter fold of
`validateServices` described without its accumulator.
-/
import GontainerModel.Lemmas.Basics
import GontainerModel.Lemmas.Grammar
import GontainerModel.Model.Validate
namespace GM.C11
open GM GM.Validate GM.Input

theorem rx_yaml (s : String) : rx Rx.yamlToken s = Grammar.yamlToken s.toList :=
  Grammar.recognises_yamlToken.accepts_eq _

theorem rx_go (s : String) : rx Rx.goToken s = Grammar.goToken s.toList :=
  Grammar.recognises_goToken.accepts_eq _

theorem regexField_nil_iff (f v : String) (r : Re) : regexField f v r = [] ↔ rx r v = true := ite_nil_eq_nil

theorem unsupported_eq (n : String) (v : Val) :
    unsupported n v = if v.isPrimitive then [] else [n ++ ": unsupported type " ++ (match v with | .other t => t | _ => "")] := by
  cases v <;> rfl

theorem unsupported_nil_iff (n : String) (v : Val) : unsupported n v = [] ↔ v.isPrimitive = true := by
  rw [unsupported_eq]; exact ite_nil_eq_nil

theorem serviceAttrs_nil_iff (s : Service) :
    serviceAttrs s = [] ↔
      constructorType s = [] ∧ optField "constructor" s.constructor Rx.goFunc = [] ∧ serviceGetter s = [] ∧
      optField "type" s.type Rx.serviceType = [] ∧ optField "value" s.value Rx.serviceValue = [] ∧
      serviceArgs s = [] ∧ serviceCalls s = [] ∧ serviceFields s = [] ∧ serviceTags s = [] := by
  simp only [serviceAttrs, List.append_eq_nil_iff, and_assoc]

theorem serviceGetter_nil_iff (s : Service) (g : String) (hg : s.getter = some g) :
    serviceGetter s = [] ↔
      reservedGetters.contains g = false ∧ mustPrefix.isPrefixOf g.toList = false ∧
      inContextSuffix.isSuffixOf g.toList = false ∧ Grammar.goToken g.toList = true := by
  simp only [serviceGetter, hg]
  cases reservedGetters.contains g
  · simp only [Bool.false_eq_true, ↓reduceIte, List.append_eq_nil_iff, regexField_nil_iff, rx_go, ite_cons_eq_nil,
      Bool.not_eq_true, true_and, and_assoc]
  · simp

/-- the getters of the non-todo services, in processing order -/
def liveGetters (l : List (String × Service)) : List String :=
  l.filterMap fun ns => if ns.2.todo.getD false then none else ns.2.getter

theorem liveGetters_cons (ns : String × Service) (l : List (String × Service)) :
    liveGetters (ns :: l) = (if ns.2.todo.getD false then none else ns.2.getter).toList ++ liveGetters l := by
  rw [liveGetters, List.filterMap_cons]
  cases (if ns.2.todo.getD false then none else ns.2.getter) <;> rfl

theorem mem_liveGetters (l : List (String × Service)) (g : String) :
    g ∈ liveGetters l ↔ ∃ ns ∈ l, ns.2.todo.getD false = false ∧ ns.2.getter = some g := by
  simp only [liveGetters, List.mem_filterMap]
  refine exists_congr fun ns => and_congr_right fun _ => ?_
  cases ns.2.todo.getD false <;> simp

/-! `dupCheck` and `servicesStep` are described by what they do to the two things the fold is asked about: whether
the error list is still empty, and which getters the table does not hold. A todo service and a service without
getter are one case: the service claims `none`. -/

theorem dupCheck_errs_nil_iff (seen : List (String × String)) (n : String) (c : Option String) :
    (dupCheck seen n c).1 = [] ↔ ∀ g ∈ c, seen.lookup g = none := by
  cases c with
  | none => exact ⟨fun _ _ h => (nomatch h), fun _ => rfl⟩
  | some g =>
    simp only [dupCheck, Option.mem_def, Option.some.injEq, forall_eq']
    cases seen.lookup g <;> simp

theorem dupCheck_lookup_none_iff (seen : List (String × String)) (n : String) (c : Option String) (g : String) :
    (dupCheck seen n c).2.lookup g = none ↔ g ∉ c ∧ seen.lookup g = none := by
  cases c with
  | none => exact (and_iff_right fun h => nomatch h).symm
  | some g' =>
    cases h : seen.lookup g' with
    | none =>
      simp only [dupCheck, h, Option.mem_def, Option.some.injEq, List.lookup_eq_none_iff, List.forall_mem_cons,
        bne_iff_ne, ne_eq, eq_comm (a := g')]
    | some p =>
      -- the table is left as it is, and it holds `g'`
      simp only [dupCheck, h, Option.mem_def, Option.some.injEq]
      have hne : seen.lookup g = none → ¬ g' = g := fun hn e => by rw [← e, h] at hn; cases hn
      exact ⟨fun hn => ⟨hne hn, hn⟩, fun hg => hg.2⟩

theorem servicesStep_errs_nil_iff (acc : Errs × List (String × String)) (ns : String × Service) :
    (servicesStep acc ns).1 = [] ↔
      acc.1 = [] ∧ (rx Rx.yamlToken ns.1 = true ∧ (ns.2.todo.getD false = false → serviceAttrs ns.2 = [])) ∧
      ∀ g ∈ (if ns.2.todo.getD false then none else ns.2.getter), acc.2.lookup g = none := by
  unfold servicesStep
  cases ns.2.todo.getD false with
  | true =>
    -- a todo service: only the name is checked and no getter is claimed
    simp only [if_pos, List.append_eq_nil_iff, Errs.pfx_eq_nil_iff, ite_nil_eq_nil]
    exact and_congr_right fun _ => ⟨fun h => ⟨⟨h, fun h => nomatch h⟩, fun _ h => nomatch h⟩, fun h => h.1.1⟩
  | false =>
    simp only [Bool.false_eq_true, if_false, List.append_eq_nil_iff, Errs.pfx_eq_nil_iff, ite_nil_eq_nil,
      dupCheck_errs_nil_iff, forall_const, and_assoc]

theorem servicesStep_snd (acc : Errs × List (String × String)) (ns : String × Service) :
    (servicesStep acc ns).2 = (dupCheck acc.2 ns.1 (if ns.2.todo.getD false then none else ns.2.getter)).2 := by
  unfold servicesStep
  cases ns.2.todo.getD false <;> rfl

theorem nodup_toList_append {α : Type} (c : Option α) (G : List α) (L : α → Prop) :
    ((c.toList ++ G).Nodup ∧ ∀ g ∈ c.toList ++ G, L g) ↔ (∀ g ∈ c, L g) ∧ G.Nodup ∧ ∀ g ∈ G, g ∉ c ∧ L g := by
  cases c with
  | none => simp
  | some a =>
    simp only [Option.mem_def, Option.some.injEq, forall_eq', Option.toList_some, List.singleton_append,
      List.nodup_cons, List.forall_mem_cons, forall_and, List.forall_mem_ne]
    exact ⟨fun ⟨⟨hn, hnd⟩, ha, hG⟩ => ⟨ha, hnd, hn, hG⟩, fun ⟨ha, hnd, hn, hG⟩ => ⟨⟨hn, hnd⟩, ha, hG⟩⟩

theorem fold_nil_iff (l : List (String × Service)) (acc : Errs × List (String × String)) :
    (l.foldl servicesStep acc).1 = [] ↔
      acc.1 = [] ∧
      (∀ ns ∈ l, rx Rx.yamlToken ns.1 = true ∧ (ns.2.todo.getD false = false → serviceAttrs ns.2 = [])) ∧
      (liveGetters l).Nodup ∧ ∀ g ∈ liveGetters l, acc.2.lookup g = none := by
  induction l generalizing acc with
  | nil => exact (and_iff_left ⟨List.forall_mem_nil _, List.nodup_nil, List.forall_mem_nil _⟩).symm
  | cons ns l ih =>
    rw [List.foldl_cons, ih, servicesStep_errs_nil_iff, servicesStep_snd, liveGetters_cons, List.forall_mem_cons,
      nodup_toList_append]
    simp only [dupCheck_lookup_none_iff]
    exact ⟨fun ⟨⟨h0, hP, hc⟩, hPl, hD⟩ => ⟨h0, ⟨hP, hPl⟩, hc, hD⟩, fun ⟨h0, ⟨hP, hPl⟩, hc, hD⟩ => ⟨⟨h0, hP, hc⟩, hPl, hD⟩⟩

/-- the services clause of C11 as an equivalence: accepted iff every name is a YAML token, every non-todo service
passes its attribute checks, and no two non-todo services claim one getter -/
theorem services_exact (i : Input) :
    validateServices i = [] ↔
      (∀ ns ∈ AMap.sorted i.services,
        Grammar.yamlToken ns.1.toList = true ∧ (ns.2.todo.getD false = false → serviceAttrs ns.2 = [])) ∧
      (liveGetters (AMap.sorted i.services)).Nodup := by
  rw [validateServices, Errs.pfx_eq_nil_iff, fold_nil_iff]
  simp only [rx_yaml, List.lookup_nil, implies_true, and_true, true_and]

end GM.C11
