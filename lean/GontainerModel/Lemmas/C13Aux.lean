/-
From `Lemmas/Methods.lean` (character lists) to the strings of the template: `method_names_distinct`, with the
template's forms and the reserved table as variables, and that the live getters of an accepted input are what it
asks for. The regenerated tables are put in by `Props/C13.lean`.
-/
import GontainerModel.Lemmas.Methods
import GontainerModel.Lemmas.C11Aux
namespace GM.C13
open GM GM.Validate GM.Methods

theorem nodup_map_toList_iff (l : List String) : (l.map String.toList).Nodup ↔ l.Nodup := by
  simp only [List.Nodup, List.pairwise_map, ne_eq, String.toList_inj]

theorem stem_of_table (res : List (List Char))
    (h : ∀ r ∈ res, ic.isSuffixOf r = true → r.take (r.length - ic.length) ∈ res) :
    ∀ r ∈ res, ∀ g, r = g ++ ic → g ∈ res := by
  intro r hr g e
  have hs : ic.isSuffixOf r = true := by rw [e]; simp [List.isSuffixOf, List.reverse_append]
  have := h r hr hs
  rw [e] at this
  simpa using this

/-- the method names the forms `tbl` (prefix, suffix, only under `MustGetter`) declare for the getters `gs` -/
def methodNamesOf (tbl : List (String × String × Bool)) (gs : List String) : List String :=
  gs.flatMap fun g => tbl.map fun m => m.1 ++ g ++ m.2.1

section
variable {tbl : List (String × String × Bool)} {res : List String}
  (htbl : tbl = [("", "", false), ("", "InContext", false), ("Must", "", true), ("Must", "InContext", true)])

include htbl in
theorem names_toList (gs : List String) :
    (methodNamesOf tbl gs).map String.toList = allForms (gs.map String.toList) := by
  rw [htbl]
  simp only [methodNamesOf, allForms, List.map_flatMap, List.flatMap_map, List.map_cons, List.map_nil, String.toList_append]
  rfl

include htbl in
theorem method_names_distinct (hres : reservedGetters = res)
    (hmust : ∀ r ∈ res.map String.toList, must.isPrefixOf r = false)
    (hstem : ∀ r ∈ res.map String.toList, ic.isSuffixOf r = true → r.take (r.length - ic.length) ∈ res.map String.toList)
    (gs : List String) (hnd : gs.Nodup) (hok : ∀ g ∈ gs, Ok g.toList ∧ g ∉ reservedGetters) :
    (methodNamesOf tbl gs).Nodup ∧ ∀ x ∈ methodNamesOf tbl gs, x ∉ res := by
  constructor
  · rw [← nodup_map_toList_iff, names_toList htbl]
    refine allForms_nodup _ ((nodup_map_toList_iff gs).mpr hnd) fun g hg => ?_
    obtain ⟨g0, hg0, rfl⟩ := List.mem_map.mp hg
    exact (hok g0 hg0).1
  · intro x hx hr
    have hx' : x.toList ∈ allForms (gs.map String.toList) := by
      rw [← names_toList htbl]; exact List.mem_map_of_mem hx
    refine allForms_disjoint _ _ hmust (stem_of_table _ hstem) ?_ _ hx' (List.mem_map_of_mem hr)
    intro g hg hgr
    obtain ⟨g0, hg0, rfl⟩ := List.mem_map.mp hg
    obtain ⟨r, hr2, e⟩ := List.mem_map.mp hgr
    rw [String.toList_inj.mp e] at hr2
    exact (hok g0 hg0).2 (hres ▸ hr2)

end

theorem live_getters_ok (i : Input.Input) (hacc : validateServices i = []) :
    (C11.liveGetters (AMap.sorted i.services)).Nodup ∧
    ∀ g ∈ C11.liveGetters (AMap.sorted i.services), Ok g.toList ∧ g ∉ reservedGetters := by
  obtain ⟨hown, hnd⟩ := (C11.services_exact i).mp hacc
  refine ⟨hnd, fun g hg => ?_⟩
  obtain ⟨ns, hns, hlive, hget⟩ := (C11.mem_liveGetters _ g).mp hg
  obtain ⟨-, -, hgetter, -⟩ := (C11.serviceAttrs_nil_iff ns.2).mp ((hown ns hns).2 hlive)
  obtain ⟨hres, hmust, hic, -⟩ := (C11.serviceGetter_nil_iff ns.2 g hget).mp hgetter
  exact ⟨⟨hmust, hic⟩, by simpa using hres⟩

end GM.C13
