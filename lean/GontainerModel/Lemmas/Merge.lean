/- The merge combinators of `merge.go` are associative with identity, and a lookup in a merged map is the merge of the lookups (C09). -/
import GontainerModel.Model.Input
import GontainerModel.Lemmas.SortedMap
namespace GM.Input

theorem mergePtr_assoc {α : Type} (a b c : Option α) : mergePtr (mergePtr a b) c = mergePtr a (mergePtr b c) := by
  cases a <;> cases b <;> cases c <;> rfl
theorem mergePtr_none_left {α : Type} (a : Option α) : mergePtr none a = a := by cases a <;> rfl
theorem mergePtr_none_right {α : Type} (a : Option α) : mergePtr a none = a := rfl

theorem mergeMap_assoc {V : Type} (a b c : AMap V) : mergeMap (mergeMap a b) c = mergeMap a (mergeMap b c) := by
  simp [mergeMap, List.append_assoc]
theorem mergeMap_nil_left {V : Type} (a : AMap V) : mergeMap [] a = a := by simp [mergeMap]
theorem mergeMap_nil_right {V : Type} (a : AMap V) : mergeMap a [] = a := by simp [mergeMap]

theorem get_mergeMap {V : Type} (a b : AMap V) (k : String) : (mergeMap a b).get k = (b.get k).or (a.get k) :=
  List.lookup_append

theorem mergeArgs_assoc (a b c : List Val) : mergeArgs (mergeArgs a b) c = mergeArgs a (mergeArgs b c) := by
  unfold mergeArgs
  cases c <;> cases b <;> simp
theorem mergeArgs_nil_left (a : List Val) : mergeArgs [] a = a := by
  unfold mergeArgs; cases a <;> simp
theorem mergeArgs_nil_right (a : List Val) : mergeArgs a [] = a := by simp [mergeArgs]

theorem mergeMeta_assoc (a b c : Meta) : mergeMeta (mergeMeta a b) c = mergeMeta a (mergeMeta b c) := by
  simp [mergeMeta, mergePtr_assoc, mergeMap_assoc]
theorem mergeMeta_empty_left (m : Meta) : mergeMeta {} m = m := by
  simp [mergeMeta, mergePtr_none_left, mergeMap_nil_left]
theorem mergeMeta_empty_right (m : Meta) : mergeMeta m {} = m := by
  simp [mergeMeta, mergePtr_none_right, mergeMap_nil_right]

theorem mergeService_assoc (a b c : Service) :
    mergeService (mergeService a b) c = mergeService a (mergeService b c) := by
  simp [mergeService, mergePtr_assoc, mergeMap_assoc, mergeArgs_assoc, List.append_assoc]

/-- the key-wise operation `mergeServices` performs, on optional values -/
def optMerge : Option Service → Option Service → Option Service
  | some x, some y => some (mergeService x y)
  | some x, none => some x
  | none, some y => some y
  | none, none => none

theorem optMerge_assoc (a b c : Option Service) :
    optMerge (optMerge a b) c = optMerge a (optMerge b c) := by
  cases a <;> cases b <;> cases c <;> simp [optMerge, mergeService_assoc]

theorem optMerge_none_left (a : Option Service) : optMerge none a = a := by cases a <;> rfl
theorem optMerge_none_right (a : Option Service) : optMerge a none = a := by cases a <;> rfl

theorem mergeSvcAt_eq (a b : AMap Service) (k : String) : mergeSvcAt a b k = optMerge (a.get k) (b.get k) := by
  unfold mergeSvcAt optMerge
  cases a.get k <;> cases b.get k <;> rfl

theorem get_mergeServices (a b : AMap Service) (k : String) :
    (mergeServices a b).get k = optMerge (a.get k) (b.get k) := by
  unfold mergeServices AMap.get
  rw [lookup_filterMap_key]
  simp only [mergeSvcAt_eq]
  split
  next => rfl
  next h =>
    rw [AMap.mem_rawKeys, Option.not_isSome_iff_eq_none, AMap.get, List.lookup_append, Option.or_eq_none_iff] at h
    rw [h.1, h.2]
    rfl

end GM.Input
