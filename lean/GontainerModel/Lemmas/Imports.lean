/-
The import table (C14). A prefix alias without `/` matches a reference iff it is the reference's first path segment, so no two
such aliases match the same reference. A local name carries the counter in hex before its first `_`, so names given at different
counters differ: that is what keeps the local names of a reachable table pairwise distinct (`TInv`).
-/
import GontainerModel.Model.Imports
import GontainerModel.Lemmas.Basics
import GontainerModel.Lemmas.Hex
namespace GM.Imports

theorem takeWhile_bne_append {c : Char} {a : List Char} (l : List Char) (h : c ∉ a) :
    (a ++ l).takeWhile (· != c) = a ++ l.takeWhile (· != c) :=
  List.takeWhile_append_of_pos fun _ hx => bne_iff_ne.mpr fun e => h (e ▸ hx)

def firstSeg (imp : List Char) : List Char := imp.takeWhile (· != '/')

theorem firstSeg_append (a l : List Char) (h : '/' ∉ a) : firstSeg (a ++ l) = a ++ firstSeg l :=
  takeWhile_bne_append l h

theorem segMatch_iff {a imp : List Char} (h : '/' ∉ a) : segMatch a imp = true ↔ firstSeg imp = a ∧ (imp = a ∨ ∃ r, imp = a ++ '/' :: r) := by
  unfold segMatch
  simp only [Bool.or_eq_true, beq_iff_eq]
  constructor
  · rintro (rfl | hm)
    · exact ⟨by simpa [firstSeg] using firstSeg_append imp [] h, Or.inl rfl⟩
    · obtain ⟨t, rfl⟩ := List.isPrefixOf_iff_prefix.mp hm
      rw [List.append_assoc, firstSeg_append a _ h]
      exact ⟨by simp [firstSeg], Or.inr ⟨t, rfl⟩⟩
  · rintro ⟨_, rfl | ⟨r, rfl⟩⟩
    · exact Or.inl rfl
    · exact Or.inr (List.isPrefixOf_iff_prefix.mpr ⟨r, by simp⟩)

theorem segMatch_unique {a b imp : List Char} (ha : '/' ∉ a) (hb : '/' ∉ b)
    (h1 : segMatch a imp = true) (h2 : segMatch b imp = true) : a = b :=
  ((segMatch_iff ha).mp h1).1.symm.trans ((segMatch_iff hb).mp h2).1

theorem alias_hit {st : St} {r a : String} (h : st.imports.lookup (decorate st.prefixes r) = some a) : alias st r = (st, a) := by
  simp only [alias, h]

theorem alias_miss {st : St} {r : String} (h : st.imports.lookup (decorate st.prefixes r) = none) :
    alias st r = ({ st with counter := st.counter + 1,
                            imports := (decorate st.prefixes r, localName st.counter (decorate st.prefixes r)) :: st.imports },
                  localName st.counter (decorate st.prefixes r)) := by
  simp only [alias, h]

theorem alias_prefixes (st : St) (r : String) : (alias st r).1.prefixes = st.prefixes := by
  cases h : st.imports.lookup (decorate st.prefixes r) with
  | none => rw [alias_miss h]
  | some a => rw [alias_hit h]

theorem alias_lookup (st : St) (r : String) : (alias st r).1.imports.lookup (decorate st.prefixes r) = some (alias st r).2 := by
  cases h : st.imports.lookup (decorate st.prefixes r) with
  | none => rw [alias_miss h]; exact List.lookup_cons_self
  | some a => rw [alias_hit h]; exact h

theorem alias_mono (st : St) (r : String) : ∀ e ∈ st.imports, e ∈ (alias st r).1.imports := by
  cases h : st.imports.lookup (decorate st.prefixes r) with
  | none => rw [alias_miss h]; exact fun _ he => List.mem_cons_of_mem _ he
  | some a => rw [alias_hit h]; exact fun _ he => he

theorem localName_toList (n : Nat) (p : String) :
    (localName n p).toList = 'i' :: (Nat.toDigits 16 n ++ '_' :: (lastSeg p.toList).map fun c => if isAlnum c then c else '_') := by
  unfold localName hexStr
  simp [String.toList_append, String.toList_ofList]

/-- the counter can be read back from a local name: the hex digits between the `i` and the first `_` -/
theorem localName_counter (n : Nat) (p : String) :
    GoQuote.hexValN (((localName n p).toList.drop 1).takeWhile (· != '_')) = some n := by
  rw [localName_toList, List.drop_one, List.tail_cons, takeWhile_bne_append _ (Hex.underscore_not_mem n)]
  exact (congrArg GoQuote.hexValN (List.append_nil _)).trans (Hex.hexValN_toDigits n)

theorem localName_counter_inj {n m : Nat} {p q : String} (h : localName n p = localName m q) : n = m := by
  have hn := localName_counter n p
  rw [h, localName_counter m q] at hn
  exact (Option.some.inj hn).symm

/-- What holds of every import table reachable from the empty one. `named` is there to make `names` inductive: a new name
carries the current counter, every older one a smaller counter. -/
structure TInv (st : St) : Prop where
  paths : (st.imports.map (·.1)).Nodup
  named : ∀ e ∈ st.imports, ∃ k, k < st.counter ∧ e.2 = localName k e.1
  names : (st.imports.map (·.2)).Nodup

theorem TInv.name_eq_iff {st : St} (h : TInv st) {p q a b : String} (hp : (p, a) ∈ st.imports) (hq : (q, b) ∈ st.imports) :
    a = b ↔ p = q :=
  ⟨fun e => (Prod.mk.inj (eq_of_nodup_map (·.2) h.names hp hq e)).1,
   fun e => (Prod.mk.inj (eq_of_nodup_map (·.1) h.paths hp hq e)).2⟩

theorem tinv_init (pre : List (String × String)) : TInv { counter := 0, imports := [], prefixes := pre } :=
  ⟨List.nodup_nil, fun _ h => (nomatch h), List.nodup_nil⟩

theorem tinv_alias (st : St) (r : String) (h : TInv st) : TInv (alias st r).1 := by
  cases hl : st.imports.lookup (decorate st.prefixes r) with
  | some a => rw [alias_hit hl]; exact h
  | none =>
    rw [alias_miss hl]
    refine ⟨List.nodup_cons.mpr ⟨lookup_eq_none_iff_not_mem.mp hl, h.paths⟩, ?_, List.nodup_cons.mpr ⟨?_, h.names⟩⟩
    · intro e he
      rcases List.mem_cons.mp he with rfl | he
      · exact ⟨st.counter, Nat.lt_succ_self _, rfl⟩
      · obtain ⟨k, hk, e2⟩ := h.named e he
        exact ⟨k, Nat.lt_succ_of_lt hk, e2⟩
    · intro hm
      obtain ⟨e, he, e2⟩ := List.mem_map.mp hm
      obtain ⟨k, hk, e3⟩ := h.named e he
      exact Nat.ne_of_lt hk (localName_counter_inj (e3.symm.trans e2))

def aliasAll (st : St) (rs : List String) : St := rs.foldl (fun s r => (alias s r).1) st

theorem tinv_aliasAll (st : St) (rs : List String) (h : TInv st) : TInv (aliasAll st rs) :=
  foldl_inv TInv rs st h fun s r _ => tinv_alias s r

theorem aliasAll_mono (st : St) (rs : List String) : ∀ e ∈ st.imports, e ∈ (aliasAll st rs).imports := fun e he =>
  foldl_inv (e ∈ ·.imports) rs st he fun s r _ => alias_mono s r e

theorem aliasAll_prefixes (st : St) (rs : List String) : (aliasAll st rs).prefixes = st.prefixes :=
  foldl_inv (·.prefixes = st.prefixes) rs st rfl fun s r _ h => (alias_prefixes s r).trans h

end GM.Imports
