/-
Reachability as the model computes it is reachability by paths: `mem_reachD`. An answer of `reach` is closed under edges and
holds only what was reached (`reach_sound_complete`); and `reach` answers, because a round that does not close the set collects
a node of the graph it did not hold (`miss`), so `|V|` rounds close it (`reach_total`).
-/
import GontainerModel.Model.Graph
import GontainerModel.Lemmas.Basics
namespace GM.Graph
variable {α : Type}

theorem Path.snoc {g : G α} {a b c : α} (h : Path g a b) (e : (b, c) ∈ g.edges) : Path g a c := by
  induction h with
  | edge h1 => exact Path.cons h1 (Path.edge e)
  | cons h1 _ ih => exact Path.cons h1 (ih e)

theorem Path.trans {g : G α} {a b c : α} (h1 : Path g a b) (h2 : Path g b c) : Path g a c := by
  induction h1 with
  | edge e => exact Path.cons e h2
  | cons e _ ih => exact Path.cons e (ih h2)

theorem Path.first_step {g : G α} {a b : α} (p : Path g a b) : ∃ y, (a, y) ∈ g.edges ∧ (y = b ∨ Path g y b) := by
  cases p with
  | edge e => exact ⟨b, e, Or.inl rfl⟩
  | @cons _ y _ e p' => exact ⟨y, e, Or.inr p'⟩

theorem Path.rotate {g : G α} {v : α} (p : Path g v v) : ∃ y, (v, y) ∈ g.edges ∧ Path g y y := by
  obtain ⟨y, e, h⟩ := p.first_step
  refine ⟨y, e, ?_⟩
  rcases h with rfl | p'
  · exact Path.edge e
  · exact p'.snoc e

theorem path_of_walk (g : G α) (l : List α) : ∀ (v : α), (∀ e ∈ (v :: l).zip l, e ∈ g.edges) →
    ∀ w, l.getLast? = some w → Path g v w := by
  induction l with
  | nil => intro v _ w hw; simp at hw
  | cons x xs ih =>
    intro v hz w hw
    have e1 : (v, x) ∈ g.edges := hz (v, x) (by simp)
    cases xs with
    | nil => simp at hw; subst hw; exact Path.edge e1
    | cons y ys => exact Path.cons e1 (ih x (fun e he => hz e (List.mem_cons_of_mem _ he)) w (by simpa using hw))

variable [DecidableEq α]

theorem mem_succs (g : G α) (a b : α) : b ∈ succs g a ↔ (a, b) ∈ g.edges := by
  unfold succs
  rw [List.mem_filterMap]
  constructor
  · rintro ⟨⟨x, y⟩, hm, h⟩
    obtain ⟨rfl, ⟨⟩⟩ := Option.ite_none_right_eq_some.mp h
    exact hm
  · exact fun h => ⟨(a, b), h, if_pos rfl⟩

theorem mem_expand (g : G α) (r : List α) (x : α) :
    x ∈ expand g r ↔ x ∈ r ∨ ∃ y ∈ r, (y, x) ∈ g.edges := by
  unfold expand
  rw [List.mem_eraseDups]
  simp only [List.mem_append, List.mem_flatMap, mem_succs]

theorem closed_iff (g : G α) (r : List α) : closed g r = true ↔ ∀ x ∈ r, ∀ y, (x, y) ∈ g.edges → y ∈ r := by
  simp only [closed, List.all_eq_true, List.contains_iff_mem, mem_succs]

theorem not_closed_iff (g : G α) (r : List α) : closed g r = false ↔ ∃ x ∈ r, ∃ y, (x, y) ∈ g.edges ∧ y ∉ r := by
  simp only [closed, List.all_eq_false, List.all_eq_true, List.contains_iff_mem, mem_succs, Classical.not_forall,
    exists_prop]

theorem mem_nodes_of_edge (g : G α) {a b : α} (e : (a, b) ∈ g.edges) : a ∈ g.nodes ∧ b ∈ g.nodes := by
  unfold G.nodes
  simp only [List.mem_eraseDups, List.mem_flatMap]
  exact ⟨⟨(a, b), e, .head _⟩, ⟨(a, b), e, .tail _ (.head _)⟩⟩

theorem path_start_mem_nodes (g : G α) {a b : α} (p : Path g a b) : a ∈ g.nodes := by
  obtain ⟨_, e, _⟩ := p.first_step
  exact (mem_nodes_of_edge g e).1

theorem path_end_mem_nodes (g : G α) {a b : α} (p : Path g a b) : b ∈ g.nodes := by
  induction p with
  | edge e => exact (mem_nodes_of_edge g e).2
  | cons _ _ ih => exact ih

theorem closed_path (g : G α) (r : List α) (hc : closed g r = true) {x c : α} (hx : x ∈ r) (p : Path g x c) : c ∈ r := by
  rw [closed_iff] at hc
  induction p with
  | edge e => exact hc _ hx _ e
  | cons e _ ih => exact ih (hc _ hx _ e)

theorem iter_induction (g : G α) (P : List α → Prop) (step : ∀ r, P r → P (expand g r)) (n : Nat) :
    ∀ r : List α, P r → P (iter g n r) := by
  induction n with
  | zero => exact fun _ h => h
  | succ n ih => exact fun r h => ih _ (step r h)

theorem iter_sound (g : G α) (a : α) (n : Nat) (r : List α) (h : ∀ x ∈ r, Path g a x) :
    ∀ x ∈ iter g n r, Path g a x := by
  refine iter_induction g (fun r => ∀ x ∈ r, Path g a x) (fun r h x hx => ?_) n r h
  rcases (mem_expand g r x).mp hx with hx | ⟨y, hy, e⟩
  · exact h x hx
  · exact (h y hy).snoc e

theorem subset_iter (g : G α) (n : Nat) (r : List α) : ∀ x ∈ r, x ∈ iter g n r :=
  iter_induction g (fun r' => ∀ x ∈ r, x ∈ r') (fun r' h x hx => (mem_expand g r' x).mpr (Or.inl (h x hx))) n r
    (fun _ hx => hx)

theorem closed_expand (g : G α) (r : List α) (h : closed g r = true) : closed g (expand g r) = true := by
  rw [closed_iff] at h ⊢
  have same : ∀ x, x ∈ expand g r → x ∈ r := by
    intro x hx
    rcases (mem_expand g r x).mp hx with hx | ⟨y, hy, e⟩
    · exact hx
    · exact h y hy x e
  intro x hx y e
  exact (mem_expand g r y).mpr (Or.inl (h x (same x hx) y e))

theorem closed_iter (g : G α) (n : Nat) (r : List α) (h : closed g r = true) : closed g (iter g n r) = true :=
  iter_induction g (closed g · = true) (closed_expand g) n r h

/-- whenever `reach` answers, its answer is the set of nodes reachable by a non-empty path (C07) -/
theorem reach_sound_complete (g : G α) (a : α) (r : List α) (h : reach g a = some r) (b : α) :
    b ∈ r ↔ Path g a b := by
  obtain ⟨hc, ⟨⟩⟩ := Option.ite_none_right_eq_some.mp h
  constructor
  · exact iter_sound g a _ _ (fun x hx => Path.edge ((mem_succs g a x).mp hx)) b
  · intro p
    obtain ⟨y, e, h⟩ := p.first_step
    have hy := subset_iter g g.nodes.length _ y ((mem_succs g a y).mpr e)
    rcases h with rfl | p'
    · exact hy
    · exact closed_path g _ hc hy p'

/-- the number of nodes of the graph not yet collected -/
def miss (g : G α) (r : List α) : Nat := (g.nodes.filter fun x => decide (x ∉ r)).length

theorem miss_expand_lt (g : G α) (r : List α) (h : closed g r = false) : miss g (expand g r) < miss g r := by
  obtain ⟨x, hx, y, e, hy⟩ := (not_closed_iff g r).mp h
  refine filter_length_lt g.nodes (p := fun z => decide (z ∉ expand g r)) (q := fun z => decide (z ∉ r)) (fun z hz => ?_)
    y (mem_nodes_of_edge g e).2 (decide_eq_true hy) (decide_eq_false ?_)
  · exact decide_eq_true fun hr => of_decide_eq_true hz ((mem_expand g r z).mpr (.inl hr))
  · exact not_not_intro ((mem_expand g r y).mpr (.inr ⟨x, hx, e⟩))

theorem iter_closes (g : G α) (n : Nat) (r : List α) (h : miss g r ≤ n) : closed g (iter g n r) = true := by
  induction n generalizing r with
  | zero =>
    -- no node is missing, so every edge target is in `r`
    have hnil := List.eq_nil_of_length_eq_zero (Nat.le_zero.mp h)
    exact (closed_iff g r).mpr fun x _ y e => Decidable.not_not.mp fun hy =>
      List.filter_eq_nil_iff.mp hnil y (mem_nodes_of_edge g e).2 (decide_eq_true hy)
  | succ n ih =>
    cases hc : closed g r with
    | true => exact closed_iter g (n + 1) r hc
    | false => exact ih (expand g r) (Nat.le_of_lt_succ (Nat.lt_of_lt_of_le (miss_expand_lt g r hc) h))

/-- `reach` always answers: |V| rounds of expansion reach the closure -/
theorem reach_total (g : G α) (a : α) : (reach g a).isSome = true := by
  unfold reach
  rw [if_pos (iter_closes g g.nodes.length (succs g a) (List.length_filter_le _ _))]
  rfl

theorem mem_reachD (g : G α) (a b : α) : b ∈ reachD g a ↔ Path g a b := by
  obtain ⟨r, hr⟩ := Option.isSome_iff_exists.mp (reach_total g a)
  unfold reachD
  rw [hr]
  exact reach_sound_complete g a r hr b

theorem contains_reachD {g : G α} {a b : α} : (reachD g a).contains b = true ↔ Path g a b :=
  List.contains_iff_mem.trans (mem_reachD g a b)

theorem cyclic_iff_path (g : G α) : cyclic g = true ↔ ∃ v, Path g v v := by
  simp only [cyclic, onCycle, List.any_eq_true, contains_reachD]
  exact ⟨fun ⟨v, _, p⟩ => ⟨v, p⟩, fun ⟨v, p⟩ => ⟨v, path_start_mem_nodes g p, p⟩⟩

/-- the hypothesis `total` is not used: it holds of every graph (`reach_total`) -/
theorem cyclic_iff (g : G α) (total : ∀ v ∈ g.nodes, (reach g v).isSome) :
    cyclic g = true ↔ ∃ v, Path g v v :=
  cyclic_iff_path g

theorem isCycle_sound (g : G α) (c : List α) (h : isCycle g c = true) : ∃ v, c.head? = some v ∧ Path g v v := by
  unfold isCycle at h
  simp only [Bool.and_eq_true, decide_eq_true_eq, beq_iff_eq, List.all_eq_true, List.contains_iff_mem] at h
  obtain ⟨⟨hl, hh⟩, he⟩ := h
  cases c with
  | nil => exact absurd hl (Nat.not_succ_le_zero 1)
  | cons v l =>
    cases l with
    | nil => exact absurd hl (Nat.not_succ_le_self 1)
    | cons x xs =>
      rw [List.head?_cons, List.getLast?_cons_cons] at hh
      exact ⟨v, rfl, path_of_walk g (x :: xs) v he v hh.symm⟩

end GM.Graph
