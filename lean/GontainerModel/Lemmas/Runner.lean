/-
What a run returns, without its report. `accepted` is the outcome of steps 1 to 4 (default input, which cannot fail; read;
compile; validate); `core_snd` says that the error and the file effect of `core` are those of `accepted` followed by
`codegen`. What the exit status, the ignore flags and the stub switch do is read off that one equation: of the world,
`accepted` sees neither `flags.stub` nor `build`, `write` and `outPath`, and `codegen` sees nothing else.
-/
import GontainerModel.Lemmas.Compile
import GontainerModel.Model.Runner
namespace GM.Runner

theorem verbose_errs {σ : Type} (ind name : String) (active : Bool) (st : σ) (body : String → StepOut σ) :
    (verbose ind name active st body).errs = if active then (body (ind ++ "  ")).errs else [] := by
  cases active <;> rfl

theorem verbose_st {σ : Type} (ind name : String) (active : Bool) (st : σ) (body : String → StepOut σ) :
    (verbose ind name active st body).st = if active then (body (ind ++ "  ")).st else st := by
  cases active <;> rfl

theorem validateOutput_errs (w : World) (ind : String) (o : Output.Output) (ce : Errs) :
    (validateOutput w ind o ce).errs = outputErrs w.flags o ce := by
  unfold validateOutput outputErrs
  simp only [List.foldl_cons, List.foldl_nil, verbose_errs, List.nil_append, Bool.not_eq_eq_eq_not, Bool.not_true]
  cases w.flags.ignoreParams <;> cases w.flags.ignoreServices <;> simp

theorem codegen_ok_iff (w : World) (o : Output.Output) :
    (codegen w o).2.1 = [] ↔ ∃ t, w.build o w.flags.stub = .ok t ∧ w.write w.outPath t = none := by
  unfold codegen
  cases w.build o w.flags.stub with
  | error es => simp
  | ok t => cases hw : w.write w.outPath t <;> simp [hw]

theorem codegen_file (w : World) (o : Output.Output) :
    ((codegen w o).2.1 = [] ↔ ∃ t, (codegen w o).2.2 = .wrote w.outPath t) ∧
    ((codegen w o).2.1 ≠ [] → (codegen w o).2.2 = .untouched) := by
  unfold codegen
  cases w.build o w.flags.stub with
  | error es => simp
  | ok t => cases hw : w.write w.outPath t <;> simp [hw]

/-- steps 1 to 4 without the report: the validated output, or the error of the first failing step. The indentation `"  "` is
what `core` runs the read step under: the body of `verbose ""` is handed `"" ++ "  "`. -/
def accepted (w : World) (c : Output.Output → Errs) : Except Errs Output.Output :=
  let rc := readConfig w "  " Input.defaults
  if rc.errs ≠ [] then .error rc.errs else
  match Compile.compile w.version rc.st with
  | .error es => .error es
  | .ok (o, _) => if outputErrs w.flags o (c o) ≠ [] then .error (outputErrs w.flags o (c o)) else .ok o

theorem core_snd (w : World) (c : Output.Output → Errs) :
    (core w c).2 = match accepted w c with
      | .error es => (es, .untouched)
      | .ok o => (codegen w o).2 := by
  unfold core accepted
  simp only [verbose_errs, verbose_st, validateOutput_errs, ↓reduceIte, String.empty_append]
  cases (readConfig w "  " Input.defaults).errs with
  | cons e es => rfl
  | nil =>
    cases Compile.compile w.version (readConfig w "  " Input.defaults).st with
    | error es => rfl
    | ok r => cases h : outputErrs w.flags r.1 (c r.1) <;> simp [h]

/-- the one walk through `accepted`: an output only if none of the three steps reports anything; an error is never empty -/
theorem accepted_spec (w : World) (c : Output.Output → Errs) :
    match accepted w c with
    | .ok o => (readConfig w "  " Input.defaults).errs = [] ∧
        (∃ st, Compile.compile w.version (readConfig w "  " Input.defaults).st = .ok (o, st)) ∧
        outputErrs w.flags o (c o) = []
    | .error es => es ≠ [] := by
  unfold accepted
  dsimp only
  by_cases hr : (readConfig w "  " Input.defaults).errs = []
  · rw [if_neg (not_not_intro hr)]
    cases hc : Compile.compile w.version (readConfig w "  " Input.defaults).st with
    | error es => exact Compile.compile_error hc
    | ok r =>
      obtain ⟨o, st⟩ := r
      dsimp only
      by_cases ho : outputErrs w.flags o (c o) = []
      · rw [if_neg (not_not_intro ho)]; exact ⟨hr, ⟨st, rfl⟩, ho⟩
      · rw [if_pos ho]; exact ho
  · rw [if_pos hr]; exact hr

theorem accepted_error_ne_nil {w : World} {c : Output.Output → Errs} {es : Errs} (h : accepted w c = .error es) :
    es ≠ [] := by
  have := accepted_spec w c
  rwa [h] at this

theorem accepted_ok_iff (w : World) (c : Output.Output → Errs) (o : Output.Output) :
    accepted w c = .ok o ↔
      (readConfig w "  " Input.defaults).errs = [] ∧
      (∃ st, Compile.compile w.version (readConfig w "  " Input.defaults).st = .ok (o, st)) ∧
      outputErrs w.flags o (c o) = [] := by
  refine ⟨fun h => ?_, fun ⟨h1, ⟨st, h2⟩, h3⟩ => ?_⟩
  · have := accepted_spec w c
    rwa [h] at this
  · unfold accepted
    dsimp only
    rw [if_neg (not_not_intro h1), h2]
    exact if_neg (not_not_intro h3)

theorem core_file (w : World) (c : Output.Output → Errs) :
    ((core w c).2.1 = [] ↔ ∃ t, (core w c).2.2 = .wrote w.outPath t) ∧
    ((core w c).2.1 ≠ [] → (core w c).2.2 = .untouched) := by
  rw [core_snd]
  cases h : accepted w c with
  | error es => simp [accepted_error_ne_nil h]
  | ok o => exact codegen_file w o

theorem run_exit (w : World) (c : Output.Output → Errs) : (run w c).exit = if (core w c).2.1 = [] then 0 else 1 := by
  unfold run finish
  rcases core w c with ⟨ls, _ | _, f⟩ <;> rfl

theorem run_cases (w : World) (c : Output.Output → Errs) :
    ((run w c).exit = 0 ∧ (run w c).errors = [] ∧ ∃ t, (run w c).file = .wrote w.outPath t) ∨
    ((run w c).exit = 1 ∧ (run w c).errors ≠ [] ∧ (run w c).file = .untouched) := by
  rw [run_exit]
  by_cases h : (core w c).2.1 = []
  · exact .inl ⟨if_pos h, h, (core_file w c).1.mp h⟩
  · exact .inr ⟨if_neg h, h, (core_file w c).2 h⟩

end GM.Runner
