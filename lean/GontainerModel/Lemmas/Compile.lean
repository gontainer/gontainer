/-
The compiler: what a resolver returns (`resolveWith_spec`, for all of them), what each loop emits (`*_emits`, in the terms of
`Emits`), the two forms of `compileService`, and what a successful `compile` is made of (`compile_ok`).
-/
import GontainerModel.Model.Compile
import GontainerModel.Lemmas.Emits
namespace GM.Compile

section
variable {ch : List Resolver} {r : Resolver} {fns : List Token.FnDef} {st : Imports.St} {v : Val} {a : Output.Arg} {es : Errs}

theorem tokenize_error {s : String} (h : (Token.tokenize fns st s).2 = .error es) : es ≠ [] := by
  unfold Token.tokenize at h
  split at h
  · cases h; exact List.cons_ne_nil _ _
  · simp only at h
    split at h
    next => cases h
    next hne => cases h; exact fun e => hne (List.isEmpty_iff.mpr e)

/-- every arm of `resolveWith`, once; the lemmas below read off it what their users ask. Of the list `@service` and `!tagged`
record, only `≠ []` is stated: the runtime model fetches its head, whatever that is (`Runtime.resolveArg`, `headD ""`), and the
hypothesis `Runtime.ArgWF` asks no more -/
theorem resolveWith_spec {res : Except Errs Output.Arg} : (resolveWith r fns st v).2 = res →
    match res with
    | .ok a => a.raw = v ∧
      match r with
      | .service => a.depServices ≠ []
      | .tagged => a.depTags ≠ []
      | .pattern => ∃ s ts, v = .str s ∧ (Token.tokenize fns st s).2 = .ok ts ∧ a.depParams = ts.flatMap (·.dependsOn)
      | _ => True
    | .error es => es ≠ [] := by
  unfold resolveWith
  cases r with
  | nonStringPrimitive => rintro rfl; exact ⟨rfl, trivial⟩
  | gontainerValue => rintro rfl; exact ⟨rfl, trivial⟩
  | value =>
    cases v with
    | str s =>
      dsimp only
      cases Re.captures Rx.argValue s.toList with
      | none => rintro rfl; exact List.cons_ne_nil _ _
      | some m => rintro rfl; exact ⟨rfl, trivial⟩
    | _ => rintro rfl; exact List.cons_ne_nil _ _
  | service =>
    cases v with
    | str s =>
      dsimp only
      cases Re.captures Rx.argService s.toList with
      | none => rintro rfl; exact List.cons_ne_nil _ _
      | some m => rintro rfl; exact ⟨rfl, List.cons_ne_nil _ _⟩
    | _ => rintro rfl; exact List.cons_ne_nil _ _
  | tagged =>
    cases v with
    | str s =>
      dsimp only
      cases Re.captures Rx.argTagged s.toList with
      | none => rintro rfl; exact List.cons_ne_nil _ _
      | some m => rintro rfl; exact ⟨rfl, List.cons_ne_nil _ _⟩
    | _ => rintro rfl; exact List.cons_ne_nil _ _
  | pattern =>
    cases v with
    | str s =>
      dsimp only
      cases ht : Token.tokenize fns st s with
      | mk st' toks =>
        cases toks with
        | error es => rintro rfl; exact tokenize_error (congrArg Prod.snd ht)
        | ok ts =>
          dsimp only
          cases Token.goCode ts with
          | error e => rintro rfl; exact List.cons_ne_nil _ _
          | ok c => rintro rfl; exact ⟨rfl, s, ts, rfl, congrArg Prod.snd ht, rfl⟩
    | _ => rintro rfl; exact List.cons_ne_nil _ _

theorem resolveWith_error (h : (resolveWith r fns st v).2 = .error es) : es ≠ [] :=
  resolveWith_spec h

theorem resolveWith_raw (h : (resolveWith r fns st v).2 = .ok a) : a.raw = v :=
  (resolveWith_spec h).1

theorem resolveWith_service (h : (resolveWith .service fns st v).2 = .ok a) : a.depServices ≠ [] :=
  (resolveWith_spec h).2

theorem resolveWith_tagged (h : (resolveWith .tagged fns st v).2 = .ok a) : a.depTags ≠ [] :=
  (resolveWith_spec h).2

theorem resolveWith_pattern (h : (resolveWith .pattern fns st v).2 = .ok a) :
    ∃ s ts, v = .str s ∧ (Token.tokenize fns st s).2 = .ok ts ∧ a.depParams = ts.flatMap (·.dependsOn) :=
  (resolveWith_spec h).2

theorem resolve_ok (h : (resolve ch fns st v).2 = .ok a) :
    ∃ r, ch.find? (supports · v) = some r ∧ (resolveWith r fns st v).2 = .ok a := by
  unfold resolve at h
  split at h
  next r hf => exact ⟨r, hf, h⟩
  next => cases h

theorem resolve_raw (h : (resolve ch fns st v).2 = .ok a) : a.raw = v := by
  obtain ⟨_, _, h⟩ := resolve_ok h
  exact resolveWith_raw h

theorem resolve_error (h : (resolve ch fns st v).2 = .error es) : es ≠ [] := by
  unfold resolve at h
  split at h
  · exact resolveWith_error h
  · cases h; exact List.cons_ne_nil _ _

/-- what a loop stores for the value `v` and what it reports: the resolved argument and nothing, or the zero placeholder and some
error (`st`, the import table at that point of the loop, is not told) -/
def Stored (ch : List Resolver) (fns : List Token.FnDef) (v : Val) (a : Output.Arg) (es : Errs) : Prop :=
  (es = [] ∧ ∃ st, (resolve ch fns st v).2 = .ok a) ∨ (es ≠ [] ∧ a = zeroArg)

theorem Stored.raw (h : Stored ch fns v a []) : a.raw = v := by
  rcases h with ⟨_, _, h⟩ | ⟨h, _⟩
  · exact resolve_raw h
  · exact absurd rfl h

theorem Stored.pfx (p : String) (h : Stored ch fns v a es) : Stored ch fns v a (Errs.pfx p es) := by
  rcases h with ⟨he, h⟩ | ⟨he, h⟩
  · exact .inl ⟨Errs.pfx_eq_nil_iff.mpr he, h⟩
  · exact .inr ⟨fun e => he (Errs.pfx_eq_nil_iff.mp e), h⟩

theorem Stored.of_resolve (ch : List Resolver) (fns : List Token.FnDef) (st : Imports.St) (v : Val) (p : String) :
    (∃ st' a, resolve ch fns st v = (st', .ok a) ∧ Stored ch fns v a []) ∨
    ∃ st' es, resolve ch fns st v = (st', .error es) ∧ Stored ch fns v zeroArg (Errs.pfx p es) := by
  cases hr : resolve ch fns st v with
  | mk st' res =>
    have hres : (resolve ch fns st v).2 = res := congrArg Prod.snd hr
    cases res with
    | ok a => exact .inl ⟨st', a, rfl, .inl ⟨rfl, st, hres⟩⟩
    | error es => exact .inr ⟨st', es, rfl, .inr ⟨fun e => resolve_error hres (Errs.pfx_eq_nil_iff.mp e), rfl⟩⟩

end

theorem resolveArgs_emits (fns : List Token.FnDef) (st : Imports.St) (args : List Val) :
    Emits (fun v zs e => ∃ a, zs = [a] ∧ Stored argChain fns v a e) args
      (resolveArgs fns st args).2.1 (resolveArgs fns st args).2.2 := by
  apply Emits.pfx "args: " _ (fun _ _ _ ⟨a, hz, hs⟩ => ⟨a, hz, hs.pfx _⟩)
  refine Emits.of_foldl_nil (·.2.1) (·.2.2.1) (resolveArgsStep fns) ?_ args (st, [], [], 0) rfl rfl
  intro acc v
  unfold resolveArgsStep
  rcases Stored.of_resolve argChain fns acc.1 v (toString acc.2.2.2 ++ ": ") with ⟨st', a, hr, hs⟩ | ⟨st', es, hr, hs⟩
  · rw [hr]; exact ⟨[a], [], ⟨a, rfl, hs⟩, rfl, (List.append_nil _).symm⟩
  · rw [hr]; exact ⟨[zeroArg], _, ⟨_, rfl, hs⟩, rfl, rfl⟩

theorem compileFields_emits (fns : List Token.FnDef) (st : Imports.St) (fields : AMap Val) :
    Emits (fun nv zs e => ∃ a, zs = [{ name := nv.1, value := a }] ∧ Stored argChain fns nv.2 a e) (AMap.sorted fields)
      (compileFields fns st fields).2.1 (compileFields fns st fields).2.2 := by
  refine Emits.of_foldl_nil (·.2.1) (·.2.2) (compileFieldStep fns) ?_ _ (st, [], []) rfl rfl
  intro acc nv
  unfold compileFieldStep
  rcases Stored.of_resolve argChain fns acc.1 nv.2 (Val.quoteStr nv.1 ++ ": ") with ⟨st', a, hr, hs⟩ | ⟨st', es, hr, hs⟩
  · rw [hr]; exact ⟨_, [], ⟨a, rfl, hs⟩, rfl, (List.append_nil _).symm⟩
  · rw [hr]; exact ⟨_, _, ⟨_, rfl, hs⟩, rfl, rfl⟩

theorem compileCalls_emits (fns : List Token.FnDef) (st : Imports.St) (calls : List Input.Call) :
    Emits (fun c zs e => ∃ st, zs = [{ method := c.method, args := (resolveArgs fns st c.args).2.1, immutable := c.immutable }] ∧
        (e = [] ↔ (resolveArgs fns st c.args).2.2 = [])) calls
      (compileCalls fns st calls).2.1 (compileCalls fns st calls).2.2.1 :=
  Emits.of_foldl_nil (·.2.1) (·.2.2.1) (compileCallStep fns)
    (fun acc _ => ⟨_, _, ⟨acc.1, rfl, Errs.pfx_eq_nil_iff⟩, rfl, rfl⟩) calls (st, [], [], 0) rfl rfl

theorem compileDecorators_emits (i : Input.Input) (fns : List Token.FnDef) (st : Imports.St) :
    Emits (fun d zs (_ : Errs) => ∃ st dec,
        zs = [{ tag := d.tag, decorator := dec, args := (resolveArgs fns st d.args).2.1, raw := d.decorator }])
      i.decorators (compileDecorators i fns st).1 (compileDecorators i fns st).2.2 :=
  (Emits.of_foldl_nil (·.2.1) (·.2.2.1) (compileDecoratorsStep fns)
    (fun _ _ => ⟨_, _, ⟨_, _, rfl⟩, rfl, rfl⟩) i.decorators (st, [], [], 0) rfl rfl).pfx _ (fun _ _ _ h => h)

theorem compileService_todo (name : String) (svc : Input.Service) (dm : Option Bool) (fns : List Token.FnDef) (st : Imports.St)
    (h : svc.todo.getD false = true) :
    compileService name svc dm fns st = ({ name := name, todo := true, scope := scopeOut svc.scope }, st, []) := by
  unfold compileService
  rw [if_pos h]

theorem compileService_live (name : String) (svc : Input.Service) (dm : Option Bool) (fns : List Token.FnDef) (st : Imports.St)
    (h : svc.todo.getD false = false) :
    let rf := compileFields fns st svc.fields
    let ra := resolveArgs fns rf.1 svc.args
    let rc := compileCalls fns ra.1 svc.calls
    (compileService name svc dm fns st).1.fields = rf.2.1 ∧
    (compileService name svc dm fns st).1.args = ra.2.1 ∧
    (compileService name svc dm fns st).1.calls = rc.2.1 ∧
    (compileService name svc dm fns st).1.tags.map (fun t => (t.name, t.priority)) = svc.tags.map (fun t => (t.name, t.priority)) := by
  unfold compileService
  rw [if_neg (by rw [h]; exact Bool.false_ne_true)]
  exact ⟨rfl, rfl, rfl, by rw [List.map_map]; rfl⟩

theorem compileServices_emits (i : Input.Input) (fns : List Token.FnDef) (st : Imports.St) :
    Emits (fun ns zs (_ : Errs) => ∃ st, zs = [(compileService ns.1 ns.2 i.mt.defaultMustGetter fns st).1])
      (AMap.sorted i.services) (compileServices i fns st).1 (compileServices i fns st).2.2 :=
  (Emits.of_foldl_nil (A := Imports.St × List Output.Service × Errs) (·.2.1) (·.2.2) _ (fun acc _ => ⟨_, _, ⟨acc.1, rfl⟩, rfl, rfl⟩)
    (AMap.sorted i.services) (st, [], []) rfl rfl).pfx _ (fun _ _ _ h => h)

theorem compileParams_emits (i : Input.Input) (fns : List Token.FnDef) (st : Imports.St) :
    Emits (fun kv zs e => ∃ a, zs = [{ name := kv.1, code := a.code, raw := a.raw, dependsOn := a.depParams }] ∧
        Stored paramChain fns kv.2 a e) (AMap.sorted i.params) (compileParams i fns st).1 (compileParams i fns st).2.2 := by
  apply Emits.pfx _ _ (fun _ _ _ ⟨a, hz, hs⟩ => ⟨a, hz, hs.pfx _⟩)
  refine Emits.of_foldl_nil (A := Imports.St × List Output.Param × Errs) (·.2.1) (·.2.2) _ ?_ _ (st, [], []) rfl rfl
  rintro ⟨st0, ps, errs⟩ ⟨k, v⟩
  simp only
  rcases Stored.of_resolve paramChain fns st0 v (Val.quoteStr k ++ ": ") with ⟨st', a, hr, hs⟩ | ⟨st', es, hr, hs⟩
  · rw [hr]; exact ⟨_, [], ⟨a, rfl, hs⟩, rfl, (List.append_nil _).symm⟩
  · rw [hr]; exact ⟨_, _, ⟨_, rfl, hs⟩, rfl, rfl⟩

theorem ok_of_guard {α : Type} {e : Errs} {x : Except Errs α} {y : α}
    (h : (if (!e.isEmpty) = true then .error e else x) = .ok y) : x = .ok y := by
  split at h
  · cases h
  · exact h

theorem error_of_guard {α : Type} {e es : Errs} {x : Except Errs α}
    (h : (if (!e.isEmpty) = true then .error e else x) = .error es) (hx : x = .error es → es ≠ []) : es ≠ [] := by
  split at h
  · cases h; rintro rfl; contradiction
  · exact hx h

theorem compile_ok {bv : String} {i : Input.Input} {o : Output.Output} {st : Imports.St}
    (h : compile bv i = .ok (o, st)) :
    let m := compileMeta i {}
    let ps := compileParams i m.2.2.1 m.2.1
    let ss := compileServices i m.2.2.1 ps.2.1
    let ds := compileDecorators i m.2.2.1 ss.2.1
    o = { mt := m.1, params := ps.1, services := ss.1, decorators := ds.1 } ∧ st = ds.2.1 := by
  unfold compile at h
  -- `compile` is five guards, one per step, around the result; `with_reducible` keeps the steps folded, so that the tuple each
  -- returns is taken apart by projections and not by running the step
  with_reducible
    cases ok_of_guard (ok_of_guard (ok_of_guard (ok_of_guard (ok_of_guard h))))
    exact ⟨rfl, rfl⟩

theorem compile_error {bv : String} {i : Input.Input} {es : Errs} (h : compile bv i = .error es) : es ≠ [] := by
  unfold compile at h
  with_reducible exact error_of_guard h fun h => error_of_guard h fun h => error_of_guard h fun h =>
    error_of_guard h fun h => error_of_guard h fun h => nomatch h

end GM.Compile
