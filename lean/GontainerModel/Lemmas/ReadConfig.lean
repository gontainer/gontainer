/-
The read-config step (`StepReadConfig.Run`; glob, clean and read are parameters of the runner model). Its two nested
folds move every component of their accumulator independently, so the read state after the files `fs` (`After`) is
composed along `++`, and at the end is a function of the flat list `filesInOrder`: the input is the fold of `merge` over
the files in DOCUMENTED read order (the patterns in the order of the -i options, within one pattern the cleaned paths in
byte-wise ascending order, a file that cannot be read adding nothing), `found` says whether some file was read, and the
count of a file is how often it was read. `readConfig_ok` lists what a successful step implies; each failure kind of
C10 is one of its fields read backwards.
-/
import GontainerModel.Lemmas.SortedMap
import GontainerModel.Model.Runner
namespace GM.Runner

/-- what reading one file adds to the input -/
def mergeFile (w : World) (acc : Input.Input) (f : String) : Input.Input :=
  match w.read f with
  | .ok doc => Input.merge acc doc
  | .error _ => acc

/-- the files of a run in read order -/
def filesInOrder (w : World) : List String := w.patterns.flatMap fun p => (patternFiles w p).1

/-- the errors one file adds -/
def fileErrs (w : World) (f : String) : Errs :=
  match w.read f with
  | .ok _ => []
  | .error es => Errs.pfx ("`" ++ f ++ "`: ") es

/-- the errors one pattern adds: its glob error, then those of its files -/
def patternErrs (w : World) (p : String) : Errs :=
  (patternFiles w p).2 ++ (patternFiles w p).1.flatMap (fileErrs w)

/-- how often `f` has been read successfully so far -/
def cnt (processed : List (String × List String)) (f : String) : Nat := ((processed.lookup f).getD []).length

/-- the left side is over the `processed` that `readFileStep` leaves after reading `g` for pattern `p` -/
theorem cnt_record (pr : List (String × List String)) (g p f : String) :
    cnt ((g, (pr.lookup g).getD [] ++ [p]) :: pr.filter (·.1 != g)) f = cnt pr f + [g].count f := by
  unfold cnt
  by_cases hf : f = g
  · simp [hf]
  · simp [List.lookup_cons, beq_false_of_ne hf, lookup_filter_key _ (· != g), hf, Ne.symm hf]

/-- `t` is the read state `s` once the files `fs` have been read as well -/
structure After (w : World) (fs : List String) (s t : ReadSt) : Prop where
  input : t.input = fs.foldl (mergeFile w) s.input
  found : t.found = (s.found || fs.any fun g => (w.read g).isOk)
  count : ∀ f, cnt t.processed f = cnt s.processed f + (fs.filter fun g => (w.read g).isOk).count f

theorem After.refl (w : World) (s : ReadSt) : After w [] s s :=
  { input := rfl, found := (Bool.or_false _).symm, count := fun _ => rfl }

theorem After.append {w : World} {fs gs : List String} {s t u : ReadSt} (h₁ : After w fs s t) (h₂ : After w gs t u) :
    After w (fs ++ gs) s u where
  input := by rw [h₂.input, h₁.input, List.foldl_append]
  found := by rw [h₂.found, h₁.found, List.any_append, Bool.or_assoc]
  count f := by rw [h₂.count, h₁.count, List.filter_append, List.count_append, Nat.add_assoc]

theorem after_readFileStep (w : World) (ind p : String) (acc : List String × Errs × ReadSt) (g : String) :
    After w [g] acc.2.2 (readFileStep w ind p acc g).2.2 := by
  unfold readFileStep
  cases hr : w.read g with
  | error es =>
    exact { input := by simp [mergeFile, hr], found := by simp [hr, Except.isOk, Except.toBool],
            count := fun f => by simp [hr, Except.isOk, Except.toBool] }
  | ok doc =>
    exact { input := by simp [mergeFile, hr], found := by simp [hr, Except.isOk, Except.toBool],
            count := fun f => by simp [hr, Except.isOk, Except.toBool, cnt_record] }

theorem after_files (w : World) (ind p : String) (fs : List String) (acc : List String × Errs × ReadSt) :
    After w fs acc.2.2 (fs.foldl (readFileStep w ind p) acc).2.2 := by
  induction fs generalizing acc with
  | nil => exact .refl ..
  | cons g fs ih => exact (after_readFileStep w ind p acc g).append (ih _)

theorem after_patterns (w : World) (ind : String) (ps : List String) (acc : List String × Errs × ReadSt × Nat) :
    After w (ps.flatMap fun p => (patternFiles w p).1) acc.2.2.1 (ps.foldl (readPatternStep w ind) acc).2.2.1 := by
  induction ps generalizing acc with
  | nil => exact .refl ..
  | cons p ps ih =>
    have h : After w (patternFiles w p).1 acc.2.2.1 (readPatternStep w ind acc p).2.2.1 :=
      after_files w ind p _ (_, _, acc.2.2.1)
    exact h.append (ih _)

theorem errs_files (w : World) (ind p : String) (fs : List String) (acc : List String × Errs × ReadSt) :
    (fs.foldl (readFileStep w ind p) acc).2.1 = acc.2.1 ++ fs.flatMap (fileErrs w) :=
  foldl_append_flatMap (·.2.1) (fileErrs w) (fun acc g => by unfold readFileStep fileErrs; cases w.read g <;> simp) fs acc

theorem errs_patterns (w : World) (ind : String) (ps : List String) (acc : List String × Errs × ReadSt × Nat) :
    (ps.foldl (readPatternStep w ind) acc).2.1 = acc.2.1 ++ ps.flatMap (patternErrs w) :=
  foldl_append_flatMap (·.2.1) (patternErrs w) (fun _ _ => (errs_files ..).trans (List.append_assoc ..)) ps acc

theorem cnt_le_one (pr : List (String × List String)) (h : dupErrs pr = []) (f : String) : cnt pr f ≤ 1 := by
  unfold cnt
  cases hl : pr.lookup f with
  | none => simp
  | some ps => simpa using List.filterMap_eq_nil_iff.mp h (f, ps) ((AMap.mem_sorted ..).mpr hl)

theorem readConfig_spec (w : World) (ind : String) (i0 : Input.Input) (hp : w.patterns ≠ []) :
    ∃ st, After w (filesInOrder w) ⟨i0, false, []⟩ st ∧ (readConfig w ind i0).st = st.input ∧
      (readConfig w ind i0).errs = Errs.pfx "runner.StepReadConfig: "
        (w.patterns.flatMap (patternErrs w) ++ (if st.found then [] else ["could not process any files"]) ++
          dupErrs st.processed) := by
  unfold readConfig
  rw [if_neg (by simpa using hp)]
  have ha := after_patterns w ind w.patterns ([ind ++ "Patterns"], [], ⟨i0, false, []⟩, 0)
  have he := errs_patterns w ind w.patterns ([ind ++ "Patterns"], [], ⟨i0, false, []⟩, 0)
  generalize w.patterns.foldl (readPatternStep w ind) ([ind ++ "Patterns"], [], ⟨i0, false, []⟩, 0) = r at ha he ⊢
  obtain ⟨lines, errs, st, n⟩ := r
  dsimp only at ha he ⊢
  refine ⟨st, ha, rfl, ?_⟩
  rw [he, List.nil_append]
  cases st.found with
  | true => rw [if_pos rfl, if_pos rfl, List.append_nil]
  | false => rfl

theorem readConfig_no_patterns (w : World) (ind : String) (i0 : Input.Input) (hp : w.patterns = []) :
    readConfig w ind i0 = { lines := [], errs := ["runner.StepReadConfig: missing file patterns"], st := i0 } := by
  rw [readConfig, hp]; rfl

/-- what a step without errors implies: no pattern and no file failed, some file was read, none was read twice -/
structure ReadOk (w : World) : Prop where
  noErrs : ∀ p ∈ w.patterns, patternErrs w p = []
  found : ((filesInOrder w).any fun g => (w.read g).isOk) = true
  once : ∀ f, (w.read f).isOk = true → (filesInOrder w).count f ≤ 1

theorem readConfig_ok (w : World) (ind : String) (i0 : Input.Input) (h : (readConfig w ind i0).errs = []) : ReadOk w := by
  by_cases hp : w.patterns = []
  · rw [readConfig_no_patterns w ind i0 hp] at h; cases h
  · obtain ⟨st, ha, _, he⟩ := readConfig_spec w ind i0 hp
    rw [he, Errs.pfx_eq_nil_iff, List.append_eq_nil_iff, List.append_eq_nil_iff, ite_nil_eq_nil] at h
    obtain ⟨⟨hpat, hfound⟩, hdup⟩ := h
    refine { noErrs := List.flatMap_eq_nil_iff.mp hpat, found := ha.found.symm.trans hfound, once := fun f hok => ?_ }
    have := cnt_le_one st.processed hdup f
    rw [ha.count f, List.count_filter (p := fun g => (w.read g).isOk) hok] at this
    exact Nat.le_trans (Nat.le_add_left ..) this

theorem patternFiles_sorted (w : World) (p : String) (ms : List String) (h : w.glob p = .ok ms) :
    (patternFiles w p).1.Perm (ms.map w.clean) ∧ (patternFiles w p).1.Pairwise (fun a b => AMap.strLe a b = true) := by
  unfold patternFiles
  rw [h]
  exact ⟨List.mergeSort_perm _ _, List.pairwise_mergeSort (le := AMap.strLe) AMap.strLe_trans AMap.strLe_total _⟩

end GM.Runner
