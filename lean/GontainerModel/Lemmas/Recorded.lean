/-
The compiler's own output meets the recording hypotheses: `ParamDepsRecorded` and `ArgsRecorded` hold of every compiled
configuration (`compiled_recorded`). Parameters: tokenisation finds the same references
whatever the import table holds (`Token.tokenize_refs_indep`) and `compileParams` stores them. Arguments, field values, call
and decorator arguments: each is what a resolver returned, and then `resolve_records_dependency` applies, or the placeholder
of a failed resolution, which asks the runtime for nothing.
-/
import GontainerModel.Lemmas.PatternDeps
import GontainerModel.Lemmas.Rank
import GontainerModel.Lemmas.Compile
namespace GM.Runtime

/-- the runtime (which tokenises with an empty import table) follows the dependencies of the tokens, whatever table they were
made with -/
theorem refsOf_of_tokenize (p : Prog) {st : Imports.St} {s : String} {ts : List Token.Token}
    (h : (Token.tokenize p.fns st s).2 = .ok ts) : refsOf p (.str s) = ts.flatMap (·.dependsOn) := by
  obtain ⟨ts2, h2, heq⟩ := Token.tokenize_refs_indep p.fns st {} s ts h
  rw [Token.flatMap_deps ts (Token.tokenize_deps h), ← heq]
  simp only [refsOf, h2]
  rfl

theorem resolve_param_records (p : Prog) {st : Imports.St} {v : Val} {a : Output.Arg}
    (h : (Compile.resolve Compile.paramChain p.fns st v).2 = .ok a) : ∀ n ∈ refsOf p a.raw, n ∈ a.depParams := by
  obtain ⟨r, hf, hw⟩ := Compile.resolve_ok h
  have hr : r = .nonStringPrimitive ∨ r = .pattern := by
    simpa [Compile.paramChain] using List.mem_of_find?_eq_some hf
  rw [Compile.resolveWith_raw hw]
  rcases hr with rfl | rfl
  · cases v with
    | str s => cases List.find?_some hf
    | _ => exact fun _ h => absurd h List.not_mem_nil
  · obtain ⟨s, ts, rfl, ht, hdeps⟩ := Compile.resolveWith_pattern hw
    rw [hdeps, refsOf_of_tokenize p ht]
    exact fun _ h => h

theorem _root_.GM.Compile.Stored.records (p : Prog) {v : Val} {a : Output.Arg} {es : Errs}
    (h : Compile.Stored Compile.paramChain p.fns v a es) : ∀ n ∈ refsOf p a.raw, n ∈ a.depParams := by
  rcases h with ⟨_, st, h⟩ | ⟨_, rfl⟩
  · exact resolve_param_records p h
  · exact fun _ h => nomatch h

/-- every parameter `compileParams` produces lists among its dependencies every reference the runtime follows -/
theorem compiled_params_recorded (p : Prog) (i : Input.Input) (st : Imports.St) :
    ∀ prm ∈ (Compile.compileParams i p.fns st).1, ∀ n ∈ refsOf p prm.raw, n ∈ prm.dependsOn :=
  (Compile.compileParams_emits i p.fns st).forall_out
    (by rintro kv _ _ ⟨a, rfl, hs⟩; exact List.forall_mem_singleton.mpr (hs.records p))

/-- an argument the first-match chain resolves keeps its declared value, and for an `@service` / `!tagged` form the
dependency list whose head the runtime fetches is not empty (`ArgWF`) -/
theorem resolve_records_dependency (fns : List Token.FnDef) (st st' : Imports.St) (v : Val) (a : Output.Arg)
    (h : Compile.resolve Compile.argChain fns st v = (st', .ok a)) : a.raw = v ∧ ArgWF a := by
  obtain ⟨r, hf, hw⟩ := Compile.resolve_ok (congrArg Prod.snd h)
  have hraw := Compile.resolveWith_raw hw
  have hk : argKind a = some r := by unfold argKind; rw [hraw]; exact hf
  refine ⟨hraw, fun h => ?_, fun h => ?_⟩
  · cases hk.symm.trans h; exact Compile.resolveWith_service hw
  · cases hk.symm.trans h; exact Compile.resolveWith_tagged hw

theorem argWF_zero : ArgWF Compile.zeroArg := by
  have hk : argKind Compile.zeroArg = some .nonStringPrimitive := rfl
  constructor <;> intro h <;> cases hk.symm.trans h

theorem _root_.GM.Compile.Stored.wf {fns : List Token.FnDef} {v : Val} {a : Output.Arg} {es : Errs}
    (h : Compile.Stored Compile.argChain fns v a es) : ArgWF a := by
  rcases h with ⟨_, st, h⟩ | ⟨_, rfl⟩
  · exact (resolve_records_dependency fns st _ v a (Prod.ext rfl h)).2
  · exact argWF_zero

theorem resolveArgs_wf {fns : List Token.FnDef} {st : Imports.St} {args : List Val} :
    ∀ a ∈ (Compile.resolveArgs fns st args).2.1, ArgWF a :=
  (Compile.resolveArgs_emits fns st args).forall_out
    (by rintro v _ _ ⟨a, rfl, hs⟩; exact List.forall_mem_singleton.mpr hs.wf)

theorem compileCalls_wf {fns : List Token.FnDef} {st : Imports.St} {calls : List Input.Call} :
    ∀ c ∈ (Compile.compileCalls fns st calls).2.1, ∀ a ∈ c.args, ArgWF a :=
  (Compile.compileCalls_emits fns st calls).forall_out
    (by rintro c _ _ ⟨st, rfl, _⟩; exact List.forall_mem_singleton.mpr resolveArgs_wf)

theorem compileFields_wf {fns : List Token.FnDef} {st : Imports.St} {fields : AMap Val} :
    ∀ f ∈ (Compile.compileFields fns st fields).2.1, ArgWF f.value :=
  (Compile.compileFields_emits fns st fields).forall_out
    (by rintro nv _ _ ⟨a, rfl, hs⟩; exact List.forall_mem_singleton.mpr hs.wf)

theorem compileService_wf {name : String} {svc : Input.Service} {dm : Option Bool} {fns : List Token.FnDef} {st : Imports.St} :
    ∀ a ∈ (Compile.compileService name svc dm fns st).1.allArgs, ArgWF a := by
  cases ht : svc.todo.getD false
  · obtain ⟨hf, ha, hc, _⟩ := Compile.compileService_live name svc dm fns st ht
    intro a hm
    rw [Output.Service.mem_allArgs, hf, ha, hc] at hm
    rcases hm with h | ⟨c, hc, h⟩ | ⟨f, hf, rfl⟩
    · exact resolveArgs_wf a h
    · exact compileCalls_wf c hc a h
    · exact compileFields_wf f hf
  · rw [Compile.compileService_todo name svc dm fns st ht]
    exact fun _ h => absurd h List.not_mem_nil

theorem compileServices_wf {i : Input.Input} {fns : List Token.FnDef} {st : Imports.St} :
    ∀ s ∈ (Compile.compileServices i fns st).1, ∀ a ∈ s.allArgs, ArgWF a :=
  (Compile.compileServices_emits i fns st).forall_out
    (by rintro ns _ _ ⟨st, rfl⟩; exact List.forall_mem_singleton.mpr compileService_wf)

theorem compileDecorators_wf {i : Input.Input} {fns : List Token.FnDef} {st : Imports.St} :
    ∀ d ∈ (Compile.compileDecorators i fns st).1, ∀ a ∈ d.args, ArgWF a :=
  (Compile.compileDecorators_emits i fns st).forall_out
    (by rintro d _ _ ⟨st, dec, rfl⟩; exact List.forall_mem_singleton.mpr resolveArgs_wf)

/-- a runtime program that runs the compiler's output for the input `i`: its configuration is what `Compile.compile` returned and
its function table is the one `compileMeta` registered -/
def CompiledFrom (p : Prog) (bv : String) (i : Input.Input) : Prop :=
  (∃ st, Compile.compile bv i = .ok (p.out, st)) ∧ p.fns = (Compile.compileMeta i {}).2.2.1

/-- for compiled programs both recording hypotheses of the whole-history theorems (C05, C07) hold -/
theorem compiled_recorded (p : Prog) (bv : String) (i : Input.Input) (h : CompiledFrom p bv i) :
    ArgsRecorded p ∧ ParamDepsRecorded p := by
  obtain ⟨⟨st, hc⟩, hf⟩ := h
  have ho := (Compile.compile_ok hc).1
  rw [← hf] at ho
  unfold ArgsRecorded ParamDepsRecorded
  rw [ho]
  exact ⟨⟨compileServices_wf, compileDecorators_wf⟩, compiled_params_recorded p i _⟩

end GM.Runtime
