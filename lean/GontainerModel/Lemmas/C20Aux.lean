/- `CInv` is inductive over the steps of the one-id protocol, and bounds the successful constructions by one. -/
import GontainerModel.Model.RuntimeConc
namespace GM.C20
open GM GM.RuntimeConc

theorem inv_init : CInv {} := by simp [CInv, pending, inFlight]

theorem inv_step (s s' : S) (h : CInv s) (st : Step s s') : CInv s' := by
  obtain ⟨hcount, hidle⟩ := h
  cases st with
  | acquire t hc | hit t hc _ | fail t hc =>
    -- nothing that is counted moves, and nobody is in flight afterwards
    have hp : pending s = 0 := by rw [pending, hc]
    exact ⟨hcount.trans (by rw [hp]; rfl), fun hf => nomatch hf⟩
  | miss t hc hm =>
    -- nothing that is counted moves; the thread is in flight from here on, and has just seen the cache empty
    have hp : pending s = 0 := by rw [pending, hc]
    exact ⟨hcount.trans (by rw [hp]; rfl), fun _ => hm⟩
  | construct t ok hc =>
    -- `successes` and `pending` grow together: by one if `ok`, else not at all
    have hp : pending s = 0 := by rw [pending, hc]
    have hcache : s.cache = false := hidle (by rw [inFlight, hc])
    refine ⟨?_, fun _ => hcache⟩
    show s.successes + (if ok then 1 else 0) = (if s.cache then 1 else 0) + _
    rw [hcount, hp]
    cases ok <;> rfl
  | publish t hc =>
    -- the pending instance moves into the cache, which was empty
    have hp : pending s = 1 := by rw [pending, hc]
    have hcache : s.cache = false := hidle (by rw [inFlight, hc])
    refine ⟨?_, fun hf => nomatch hf⟩
    show s.successes = 1 + 0
    rw [hcount, hp, hcache]; rfl

theorem successes_le_one {s : S} (h : CInv s) : s.successes ≤ 1 := by
  obtain ⟨h1, h2⟩ := h
  have hp : pending s = 0 ∨ (pending s = 1 ∧ inFlight s = true) := by
    unfold pending inFlight; split <;> simp [*]
  rcases hp with hp | ⟨hp, hf⟩
  · rw [h1, hp]; split <;> omega
  · rw [h1, hp, h2 hf]; decide

end GM.C20
