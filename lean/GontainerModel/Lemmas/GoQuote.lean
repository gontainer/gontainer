/-
`unquote ∘ quote = id`: the Go literal `%+q` emits denotes the original string, for every string; and the literal is
ASCII. `quoteChar` has three shapes of output (`Quoted`): the character itself, a two-character escape (`Esc`), a hex escape
of one of three widths (`HexForm`). Both results are read off the shapes.
-/
import GontainerModel.Lemmas.Hex
namespace GM.GoQuote

theorem mkChar_toNat (c : Char) : mkChar c.toNat = some c := by
  unfold mkChar
  rw [dif_pos (show c.toNat.isValidChar from c.valid)]
  exact congrArg some (Char.ext UInt32.ofNat_toNat)

/-- what `unquoteBody` does on a hex escape, once the digits are there -/
def readHex (l rest : List Char) : Option (List Char) :=
  match hexValN l, unquoteBody rest with
  | some n, some r => (mkChar n).map (· :: r)
  | _, _ => none

/-- the three hex escapes: letter after the backslash, number of digits -/
inductive HexForm : Char → Nat → Prop
  | x : HexForm 'x' 2
  | u : HexForm 'u' 4
  | U : HexForm 'U' 8

theorem unq_hex {x : Char} {k : Nat} (hx : HexForm x k) (c : Char) (rest : List Char) (h : c.toNat < 16 ^ k) :
    unquoteBody ('\\' :: x :: (hexN k c.toNat ++ rest)) = (unquoteBody rest).map (c :: ·) := by
  refine Eq.trans (b := readHex (hexN k c.toNat) rest) ?_ ?_
  · -- with the `k` digits written out, this is the defining equation for `x`
    cases hx <;> simp only [hexN, List.nil_append, List.cons_append] <;> rfl
  · rw [readHex, hexValN_hexN k _ h]
    cases unquoteBody rest <;> simp [mkChar_toNat]

theorem unq_plain (c : Char) (rest : List Char) (hc : c ≠ '\\') :
    unquoteBody (c :: rest) = if c = '"' ∨ c = '\n' then none else (unquoteBody rest).map (c :: ·) := by
  -- the equation for `c :: rest` is the last one; its five hypotheses say that no earlier pattern matches, and each of them assumes `c = '\\'`
  rw [unquoteBody]
  all_goals (intros; contradiction)

/-- the two-character escapes: letter after the backslash, character meant -/
inductive Esc : Char → Char → Prop
  | dquote : Esc '"' '"'
  | bslash : Esc '\\' '\\'
  | a : Esc 'a' (Char.ofNat 7)
  | b : Esc 'b' (Char.ofNat 8)
  | f : Esc 'f' (Char.ofNat 12)
  | n : Esc 'n' '\n'
  | r : Esc 'r' '\r'
  | t : Esc 't' '\t'
  | v : Esc 'v' (Char.ofNat 11)

theorem unq_esc {e v : Char} (h : Esc e v) (rest : List Char) :
    unquoteBody ('\\' :: e :: rest) = (unquoteBody rest).map (v :: ·) := by
  have read : ∀ o : Option (List Char), (match some v, o with
      | some ch, some r => some (ch :: r)
      | _, _ => none) = o.map (v :: ·) := by rintro (_ | _) <;> rfl
  refine Eq.trans ?_ (read (unquoteBody rest))
  cases h <;> rfl

/-- how `quoteChar` writes `c`: as itself (printable ASCII other than `"` and `\`), as a two-character escape, or as a hex
escape with enough digits for `c` -/
inductive Quoted (c : Char) : List Char → Prop
  | plain : 32 ≤ c.toNat → c.toNat < 127 → c ≠ '"' → c ≠ '\\' → Quoted c [c]
  | esc (e : Char) : Esc e c → Quoted c ['\\', e]
  | hex (x : Char) (k : Nat) : HexForm x k → c.toNat < 16 ^ k → Quoted c ('\\' :: x :: hexN k c.toNat)

theorem quoteChar_quoted (c : Char) : Quoted c (quoteChar c) :=
  have ctl {n : Nat} {e : Char} (he : Esc e (Char.ofNat n)) (h : c.toNat = n) : Quoted c ['\\', e] := by
    rw [← h, Char.ofNat_toNat] at he; exact .esc e he
  iteInduction (fun h => .esc '"' (h ▸ .dquote)) fun hq =>
  iteInduction (fun h => .esc '\\' (h ▸ .bslash)) fun hb =>
  iteInduction (fun h => .plain h.1 h.2 hq hb) fun _ =>
  iteInduction (ctl .a) fun _ =>
  iteInduction (ctl .b) fun _ =>
  iteInduction (ctl .f) fun _ =>
  iteInduction (ctl .n) fun _ =>
  iteInduction (ctl .r) fun _ =>
  iteInduction (ctl .t) fun _ =>
  iteInduction (ctl .v) fun _ =>
  iteInduction (fun h => .hex 'x' 2 .x (by omega)) fun _ =>
  iteInduction (fun h => .hex 'u' 4 .u h) fun _ =>
  .hex 'U' 8 .U c.val.toNat_lt

theorem unquote_quoteChar (c : Char) (rest : List Char) :
    unquoteBody (quoteChar c ++ rest) = (unquoteBody rest).map (c :: ·) := by
  have h := quoteChar_quoted c
  generalize quoteChar c = q at h ⊢
  cases h with
  | plain h1 h2 hq hb =>
    have hn : c ≠ '\n' := fun e => by rw [e] at h1; revert h1; decide
    show unquoteBody (c :: rest) = _
    rw [unq_plain c rest hb, if_neg (not_or.mpr ⟨hq, hn⟩)]
  | esc e he => exact unq_esc he rest
  | hex x k hx h => exact unq_hex hx c rest h

theorem unquoteBody_quoteBody : ∀ s, unquoteBody (quoteBody s) = some s
  | [] => rfl
  | c :: s => (unquote_quoteChar c (quoteBody s)).trans (congrArg (Option.map (c :: ·)) (unquoteBody_quoteBody s))

theorem unquote_quote (s : List Char) : unquote (quote s) = some s := by
  simp [unquote, quote, unquoteBody_quoteBody]

theorem hexDigit_ascii : ∀ d, d < 16 → (hexDigit d).toNat < 128 := by decide

theorem hexN_ascii (k n : Nat) : ∀ x ∈ hexN k n, x.toNat < 128 := by
  induction k generalizing n with
  | zero => exact fun _ h => nomatch h
  | succ k ih =>
    rw [hexN, List.forall_mem_append, List.forall_mem_singleton]
    exact ⟨ih _, hexDigit_ascii _ (Nat.mod_lt _ (by decide))⟩

theorem quoteChar_ascii (c : Char) : ∀ x ∈ quoteChar c, x.toNat < 128 := by
  have h := quoteChar_quoted c
  generalize quoteChar c = q at h
  cases h with
  | plain _ h2 => exact List.forall_mem_singleton.mpr (by omega)
  | esc e he => exact List.forall_mem_cons.mpr ⟨by decide, List.forall_mem_singleton.mpr (by cases he <;> decide)⟩
  | hex y k hy _ =>
    exact List.forall_mem_cons.mpr ⟨by decide, List.forall_mem_cons.mpr ⟨by cases hy <;> decide, hexN_ascii k _⟩⟩

theorem quote_ascii (s : List Char) : ∀ x ∈ quote s, x.toNat < 128 :=
  List.forall_mem_append.mpr ⟨List.forall_mem_cons.mpr ⟨by decide, List.forall_mem_flatMap.mpr fun c _ => quoteChar_ascii c⟩,
    List.forall_mem_singleton.mpr (by decide)⟩

end GM.GoQuote
